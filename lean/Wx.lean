import Wx.Base.Str
import Wx.Basic
import Wx.Cli.Action
import Wx.Cli.C12
import Wx.Cli.Compose
import Wx.Cli.ComposeThm
import Wx.Cli.SignalPrioThm
import Wx.Cli.TimeSpan
import Wx.Cli.TimeSpanThm
import Wx.Disc.C14
import Wx.Disc.C14Inst
import Wx.Disc.C14wf
import Wx.Disc.Concrete
import Wx.Disc.Walk
import Wx.Driver.CliAction
import Wx.Driver.Err
import Wx.Driver.Flags
import Wx.Driver.Fs
import Wx.Driver.FsReal
import Wx.Driver.Glob
import Wx.Driver.Job
import Wx.Driver.Kbd
import Wx.Driver.Pure
import Wx.Driver.Reconf
import Wx.Driver.Reg
import Wx.Driver.Span
import Wx.Driver.Tables
import Wx.Driver.Throttle
import Wx.Err.C15
import Wx.Err.Model
import Wx.Fs.C13
import Wx.Fs.C13f
import Wx.Fs.Model
import Wx.Fs.Reconf
import Wx.Fs.Source
import Wx.Glob.C03
import Wx.Glob.C11
import Wx.Glob.C11Inst
import Wx.Glob.Discover
import Wx.Glob.Glob
import Wx.Glob.GlobPath
import Wx.Glob.GlobPath2
import Wx.Glob.GlobPath3
import Wx.Glob.GlobThm
import Wx.Glob.Globset
import Wx.Glob.IgnoreFilter
import Wx.Glob.IgnoreFilterC
import Wx.Glob.Prefix
import Wx.Glob.Throttle
import Wx.Glob.ThrottleRun
import Wx.Job.Api
import Wx.Job.ApiThm
import Wx.Job.C04
import Wx.Job.C06
import Wx.Job.C06w
import Wx.Job.C07
import Wx.Job.C07t
import Wx.Job.C07w
import Wx.Job.C08
import Wx.Job.C08b
import Wx.Job.C08m
import Wx.Job.C08t
import Wx.Job.C09
import Wx.Job.C09c
import Wx.Job.C10
import Wx.Job.C10c
import Wx.Job.Faults
import Wx.Job.FaultsThm
import Wx.Job.SimInduct
import Wx.Job.Frame
import Wx.Job.Model
import Wx.Job.Reach
import Wx.Job.ShapesThm
import Wx.Job.Sim
import Wx.Kb.Model
import Wx.Kb.Thm
import Wx.Props.C01
import Wx.Props.C02
import Wx.Props.C03
import Wx.Props.C04
import Wx.Props.C05
import Wx.Props.C06
import Wx.Props.C07
import Wx.Props.C08
import Wx.Props.C09
import Wx.Props.C10
import Wx.Props.C11
import Wx.Props.C12
import Wx.Props.C13
import Wx.Props.C14
import Wx.Props.C15
import Wx.Props.C16
import Wx.Props.C17
import Wx.Props.C18
import Wx.Props.C19
import Wx.Props.C20
import Wx.Pure.C16
import Wx.Pure.C16Thm
import Wx.Pure.C17
import Wx.Pure.C17a
import Wx.Pure.C17b
import Wx.Pure.C18
import Wx.Pure.Gen.EnvBuckets
import Wx.Pure.Gen.JobApi
import Wx.Pure.Gen.KindTable
import Wx.Pure.Gen.NixTable
import Wx.Pure.Gen.Origins
import Wx.Pure.Gen.Shapes
import Wx.Pure.Gen.Signals
import Wx.Pure.Kinds
import Wx.Pure.Origins
import Wx.Pure.OriginsThm
import Wx.Pure.SerdeTag
import Wx.Pure.SerdeTagThm
import Wx.Pure.Signals
import Wx.Pure.SignalsCase
import Wx.Pure.SignalsThm
import Wx.Pure.Spawn
import Wx.Pure.Summary
import Wx.Queue.Model
import Wx.Queue.Props
import Wx.Reg.Model
import Wx.Reg.Thm
