import Wx.Queue.Model
/-! The theorems of `Wx/Queue` (C05, queue mode): two scripts on which the unrepaired follow-up protocol (`.today`) and its first repair
    (`.reorder`) drop a change, and the invariant by which the per-run protocol never does. -/
namespace Qm

/-- F10: the `.today` protocol reaches a quiescent, stale state (change 3 is dropped while run 2 predates it) -/
theorem f10_today :
    let s := run { v := .today }
      [.change, .jobStep, .jobStep,            -- change 1: not running → start → run 1
       .change, .jobStep,                      -- change 2 while busy: follow-up task created
       .procEnd, .wokenStep 1, .jobStep,       -- run 1 ends; follow-up sends start (flag still set); run 2
       .change, .jobStep,                      -- change 3: running ∧ queued → dropped
       .secondStep]                            -- follow-up resets the flag and ends
    quiescent s = true ∧ fresh s = false := by decide

/-- resetting the flag before the start is NOT enough -/
theorem reorder_insufficient :
    let s := run { v := .reorder }
      [.change, .jobStep, .jobStep,            -- run 1
       .change, .jobStep,                      -- change 2 while busy: follow-up task (flag set)
       .procEnd,                               -- run 1 ends; the follow-up is woken but has not run yet
       .change, .jobStep, .jobStep,            -- change 3: not running → start → run 2
       .change, .jobStep,                      -- change 4: running ∧ flag still set → dropped
       .wokenStep 1, .secondStep, .jobStep]    -- follow-up: reset, then start (a no-op: run 2 is live)
    quiescent s = true ∧ fresh s = false := by decide

/-- `cov` is the idea: a change newer than the current run is still on its way, as a `query` in the queue, or as the
    follow-up waiting behind the live run, or, the process gone, as a queued `start` or a woken follow-up that will send
    one. `a1` and `a2` tie `queuedFor`, `waiting` and `runId`, so that a query that finds `queuedFor = runId` lands in the
    second case. -/
structure Inv (s : St) : Prop where
  v : s.v = .perRun
  mono : s.runSince ≤ s.changes
  le : ∀ r, s.queuedFor = some r → r ≤ s.runId
  a1 : s.running = true → s.queuedFor = some s.runId → s.waiting = some s.runId
  a2 : ∀ r, s.waiting = some r → r = s.runId ∧ s.running = true
  cov : s.runSince < s.changes →
        Ctl.query ∈ s.queue ∨ (s.running = true ∧ s.waiting = some s.runId) ∨
        (s.running = false ∧ (Ctl.start ∈ s.queue ∨ s.woken ≠ []))

theorem inv_init : Inv { v := .perRun } :=
  ⟨rfl, Nat.le_refl _, nofun, nofun, nofun, nofun⟩

theorem inv_change {s : St} (h : Inv s) : Inv { s with changes := s.changes + 1, queue := s.queue ++ [.query] } :=
  { h with mono := Nat.le_succ_of_le h.mono, cov := fun _ => .inl (by simp) }

theorem inv_procEnd {s : St} (h : Inv s) : Inv (procEnd s) := by
  unfold procEnd
  split
  · next hr =>
    split
    · next r hw =>
      exact { h with
        a1 := nofun
        a2 := nofun
        cov := by
          intro hlt
          rcases h.cov hlt with hh | _ | ⟨hh, _⟩
          · exact .inl hh
          · exact .inr (.inr ⟨rfl, .inr (by simp)⟩)
          · rw [hr] at hh; cases hh }
    · next hw =>
      exact { h with
        a1 := nofun
        a2 := fun r hh => by rw [hw] at hh; cases hh
        cov := by
          intro hlt
          rcases h.cov hlt with hh | ⟨_, hh⟩ | ⟨hh, _⟩
          · exact .inl hh
          · rw [hw] at hh; cases hh
          · rw [hr] at hh; cases hh }
  · exact h

theorem inv_jobStep {s : St} (h : Inv s) : Inv (jobStep s) := by
  unfold jobStep
  split
  · exact h
  · next r hq =>
    have hcov := h.cov
    rw [hq] at hcov
    split
    · next hr =>
      exact { h with
        cov := by
          intro hlt
          rcases hcov hlt with hh | hh | ⟨hh, _⟩
          · simp at hh; exact .inl hh
          · exact .inr (.inl hh)
          · rw [hr] at hh; cases hh }
    · next hr =>
      -- it starts a run, which has seen every change so far
      exact { h with
        mono := Nat.le_refl _
        le := fun r hh => Nat.le_succ_of_le (h.le r hh)
        a1 := fun _ hh => absurd (h.le _ hh) (Nat.not_succ_le_self _)
        a2 := fun r hh => absurd (h.a2 r hh).2 hr
        cov := fun hlt => absurd hlt (Nat.lt_irrefl _) }
  · next r hq =>
    split
    · next hr =>
      unfold queryRunning
      simp only [h.v]
      split
      · next hqf =>
        exact { h with v := rfl, cov := fun _ => .inr (.inl ⟨hr, h.a1 hr (by simpa using hqf)⟩) }
      · exact { h with
          v := rfl
          le := fun r hh => by cases hh; exact Nat.le_refl _
          a1 := fun _ _ => rfl
          a2 := fun r hh => by cases hh; exact ⟨rfl, hr⟩
          cov := fun _ => .inr (.inl ⟨hr, rfl⟩) }
    · next hr =>
      exact { h with cov := fun _ => .inr (.inr ⟨by simpa using hr, .inl (by simp)⟩) }

theorem inv_wokenStep {s : St} (h : Inv s) (r : Nat) : Inv (wokenStep s r) := by
  unfold wokenStep
  split
  · exact h
  · rw [h.v]
    have hq : ∀ r', (if s.queuedFor == some r then none else s.queuedFor) = some r' → s.queuedFor = some r' := by
      intro r' hh
      split at hh
      · cases hh
      · exact hh
    exact { h with
      v := rfl
      le := fun r' hh => h.le r' (hq r' hh)
      a1 := fun hr hh => h.a1 hr (hq _ hh)
      cov := by
        intro hlt
        rcases h.cov hlt with hh | hh | ⟨hh, _⟩
        · exact .inl (List.mem_append_left _ hh)
        · exact .inr (.inl hh)
        · exact .inr (.inr ⟨hh, .inl (by simp)⟩) }

theorem inv_secondStep {s : St} (h : Inv s) : Inv (secondStep s) := by
  unfold secondStep
  split
  · exact h
  · simp only [h.v]; exact { h with v := rfl }

theorem inv_step {s : St} (h : Inv s) (e : Ev) : Inv (step s e) := by
  cases e with
  | change => exact inv_change h
  | procEnd => exact inv_procEnd h
  | jobStep => exact inv_jobStep h
  | wokenStep r => exact inv_wokenStep h r
  | secondStep => exact inv_secondStep h

theorem inv_run (es : List Ev) {s : St} (h : Inv s) : Inv (run s es) := by
  induction es generalizing s with
  | nil => exact h
  | cons e es ih => exact ih (inv_step h e)

theorem Inv.quiescent_fresh {s : St} (h : Inv s) (hq : quiescent s = true) : fresh s = true := by
  simp only [quiescent, Bool.and_eq_true, List.isEmpty_iff, beq_iff_eq] at hq
  obtain ⟨⟨hq1, hq2⟩, _⟩ := hq
  simp only [fresh, Bool.or_eq_true, Bool.and_eq_true, beq_iff_eq]
  by_cases hlt : s.runSince < s.changes
  · rcases h.cov hlt with hh | hh | ⟨_, hh | hh⟩
    · rw [hq1] at hh; cases hh
    · exact Or.inr hh
    · rw [hq1] at hh; cases hh
    · exact absurd hq2 hh
  · left
    have := h.mono
    omega

/-- **C05 freshness, queue mode, per-run protocol** — for every interleaving of changes, job-task
    steps, process ends and follow-up-task steps: whenever nothing is left to do, the last change has
    been followed by a run that started after it, or such a run is owed behind the live process. -/
theorem perRun_fresh (es : List Ev) :
    quiescent (run { v := .perRun } es) = true → fresh (run { v := .perRun } es) = true :=
  (inv_run es inv_init).quiescent_fresh

#print axioms perRun_fresh
end Qm
