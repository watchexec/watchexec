import Wx.Err.Model
/-! C15: the channel into the error hook. Everything on its way through the hook is read as one list, the `pipe`; a step
    of the model appends to its end or moves a boundary inside it, so its `send().await` part is always the send log. -/
namespace Eh

def isSent : Err → Bool | .tried _ => false | _ => true

/-- the errors the hook has taken: handler calls, plus an `exit` if that is how it ended -/
def St.taken (s : St) : List Err := s.delivered.map (·.2) ++ (if s.ended = some End.exit then [Err.exit] else [])

def St.pipe (s : St) : List Err := s.taken ++ s.chan ++ s.blocked

theorem refill_eq (s : St) : ∃ c b, refill s = { s with chan := c, blocked := b } ∧ c ++ b = s.chan ++ s.blocked := by
  unfold refill
  split
  · next e r hb =>
    split
    · exact ⟨_, _, rfl, by simp [hb]⟩
    · exact ⟨_, _, rfl, rfl⟩
  · exact ⟨_, _, rfl, rfl⟩

theorem pipe_hookTurn (s : St) : (step s .hookTurn).pipe = s.pipe ∧ (step s .hookTurn).sentLog = s.sentLog := by
  cases hrun : s.ended with
  | some _ => simp [step, hrun]
  | none =>
    cases hch : s.chan with
    | nil => simp [step, hrun, hch]
    | cons e r =>
      obtain ⟨c, b, hr, hcb⟩ := refill_eq { s with chan := r }
      have hcb : c ++ b = r ++ s.blocked := hcb
      have hnot : s.ended.isSome = false := by rw [hrun]; rfl
      simp only [step, hnot, hch, hr, Bool.false_eq_true, if_false]
      by_cases he : e = Err.exit
      · simp [he, St.pipe, St.taken, hrun, hch, hcb]
      · simp only [he, if_false]
        split <;> simp [St.pipe, St.taken, hrun, hch, hcb]

/-- into the channel only when nobody waits, so also then at the very end of the pipe -/
theorem pipe_chan {s : St} {e : Err} (h : s.blocked = []) : ({ s with chan := s.chan ++ [e] } : St).pipe = s.pipe ++ [e] := by
  show s.taken ++ (s.chan ++ [e]) ++ s.blocked = s.taken ++ s.chan ++ s.blocked ++ [e]
  rw [h, List.append_nil, List.append_nil, List.append_assoc]

theorem pipe_blocked {s : St} {e : Err} : ({ s with blocked := s.blocked ++ [e] } : St).pipe = s.pipe ++ [e] :=
  (List.append_assoc ..).symm

theorem step_pipe (s : St) (o : Op) :
    ∃ es, (step s o).pipe = s.pipe ++ es ∧ (step s o).sentLog = s.sentLog ++ es.filter isSent := by
  cases o with
  | send w i | sendExit =>
    simp only [step]
    split
    · next h => exact ⟨_, pipe_chan h.2, rfl⟩
    · exact ⟨_, pipe_blocked, rfl⟩
  | trySend i =>
    simp only [step]
    split
    · next h => exact ⟨[.tried i], pipe_chan h.2, (List.append_nil _).symm⟩
    · exact ⟨[], (List.append_nil _).symm, (List.append_nil _).symm⟩
  | hookTurn => exact ⟨[], by simpa using pipe_hookTurn s⟩

/-- every error handed to `send().await` is, in order and exactly once, either already taken by the
    error hook, in the channel, or held by its still-waiting sender -/
def Conserved (s : St) : Prop := s.pipe.filter isSent = s.sentLog

theorem conserved_init (cap : Nat) (behs : List HB) : Conserved { cap := cap, behs := behs } := rfl

/-- after the hook has ended the model goes on queuing sends, which the code does not: there the receiver is dropped -/
theorem conserved_run {s : St} (h : Conserved s) (ops : List Op) : Conserved (run s ops) := by
  refine List.foldlRecOn ops step h fun s hs o _ => ?_
  obtain ⟨es, h1, h2⟩ := step_pipe s o
  rw [Conserved, h1, h2, List.filter_append, hs]

theorem ended_stops (s : St) (h : s.ended.isSome = true) : step s .hookTurn = s := by simp [step, h]

theorem hook_end (s : St) (e : Err) (r : List Err) (hrun : s.ended = none) (hc : s.chan = e :: r) (he : e ≠ Err.exit) :
    (step s .hookTurn).ended =
      match s.behs[s.calls]?.getD .ignore with
      | .elevate => some (.elevated e) | .critical => some .critical | _ => none := by
  obtain ⟨c, b, hr, _⟩ := refill_eq { s with chan := r }
  have hnot : s.ended.isSome = false := by rw [hrun]; rfl
  simp only [step, hnot, hc, hr, he, Bool.false_eq_true, if_false]
  cases s.behs[s.calls]?.getD .ignore <;> simp [hrun]

/-- **C15 (exactly once, in order, nothing dropped)** for every capacity, handler script and sequence of operations -/
theorem c15_conserved (cap : Nat) (behs : List HB) (ops : List Op) :
    let s := run { cap := cap, behs := behs } ops
    s.ended = none → ((s.delivered.map (·.2)) ++ s.chan ++ s.blocked).filter isSent = s.sentLog := by
  intro s hrun
  have h : Conserved s := conserved_run (conserved_init cap behs) ops
  simpa [Conserved, St.pipe, St.taken, hrun] using h

#print axioms c15_conserved
end Eh
