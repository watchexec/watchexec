import Wx.Pure.C16
/-! C16: the generated kind table round-trips. -/
namespace Wp
open Wp.Gen

theorem kind_roundtrip_all : ∀ k ∈ allKinds, decodeKind k.dbg = k := by decide +kernel

theorem kind_roundtrip (k : EventKind) : decodeKind k.dbg = k := kind_roundtrip_all k (allKinds_complete k)

theorem table_rows_are_printed : ∀ r ∈ kindTable, r.2.dbg = r.1 := by decide +kernel

#print axioms kind_roundtrip
end Wp
