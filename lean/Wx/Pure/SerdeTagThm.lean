import Wx.Pure.SerdeTag
import Wx.Pure.C16Thm
/-! C16: round-trip theorems for the tag conversions. -/
namespace Wp
open Wp.Gen

/-- what Rust's types guarantee about a `Tag` (NonZeroI64 / NonZeroI32 payloads) -/
def Tag.wf : Tag → Prop
  | .completion (some (.exitError c)) => c ≠ 0
  | .completion (some (.exitStop c)) => c ≠ 0 ∧ inI32 c = true
  | .completion (some (.exception c)) => c ≠ 0 ∧ inI32 c = true
  | _ => True

/-- **C16 round trip**: every well-formed tag survives encode-then-decode -/
theorem decode_encode (t : Tag) (h : t.wf) : decode (encode t) = t := by
  cases t with
  | path p ft => rfl
  | fek k => simp only [encode, decode]; rw [kind_roundtrip]
  | source s => rfl
  | keyboard k => rfl
  | process pid => rfl
  | signal s => rfl
  | unknown => rfl
  | completion e =>
    cases e with
    | none => rfl
    | some e =>
      cases e with
      | success => rfl
      | continued => rfl
      | exitSignal s => rfl
      | exitError c => simp only [Tag.wf] at h; simp [encode, decode, h]
      | exitStop c => simp only [Tag.wf] at h; simp [encode, decode, h.1, h.2]
      | exception c => simp only [Tag.wf] at h; simp [encode, decode, h.1, h.2]

def Tag.kind : Tag → TagKind
  | .path .. => .path | .fek _ => .fs | .source _ => .source | .keyboard _ => .keyboard | .process _ => .process
  | .signal _ => .signal | .completion _ => .completion | .unknown => .none

/-- the two facts below, in one pass over the arms of `decode`: an arm answers `.unknown` or the constructor of the
    `kind` it was reached under, and a payload that `Tag.wf` restricts is built under the `if` that tests the restriction -/
theorem decode_spec (v : SerdeTag) : (decode v).wf ∧ ((decode v).kind = v.kind ∨ decode v = .unknown) := by
  unfold decode
  repeat' split
  all_goals simp_all [Tag.wf, Tag.kind]

theorem decode_total (v : SerdeTag) : (decode v).kind = v.kind ∨ decode v = .unknown := (decode_spec v).2

theorem decode_wf (v : SerdeTag) : (decode v).wf := (decode_spec v).1

#print axioms decode_encode
#print axioms decode_total
/-- a whole event: its tag list survives tag by tag (metadata is a string map handed to serde unchanged) -/
theorem tags_round_trip (ts : List Tag) (h : ∀ t ∈ ts, t.wf) : (ts.map encode).map decode = ts := by
  induction ts with
  | nil => rfl
  | cons t ts ih =>
    simp only [List.map_cons]
    rw [decode_encode t (h t List.mem_cons_self), ih (fun t' ht' => h t' (List.mem_cons_of_mem _ ht'))]

end Wp
