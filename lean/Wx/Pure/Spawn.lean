import Wx.Base.Str
/-! C18: supervisor/src/command/conversions.rs `to_spawnable` (unix) and cli/src/config.rs `interpret_command_args`. -/
namespace Wp

structure Shell where
  prog : Str
  options : List Str
  programOption : Option Str
  deriving DecidableEq, Repr

inductive Program
  | exec (prog : Str) (args : List Str)
  | shell (sh : Shell) (command : Str) (args : List Str)
  deriving DecidableEq, Repr

structure SpawnOptions where
  grouped : Bool
  session : Bool
  resetSigmask : Bool
  deriving DecidableEq, Repr

inductive Wrapper | killOnDrop | processSession | processGroupLeader | resetSigmask
  deriving DecidableEq, Repr

/-- argv[0..] handed to the OS -/
def argv : Program → List Str
  | .exec prog args => prog :: args
  | .shell sh command args => sh.prog :: (sh.options ++ sh.programOption.toList ++ [command] ++ args)

def wrappers (o : SpawnOptions) : List Wrapper :=
  [.killOnDrop] ++ (if o.session then [.processSession] else if o.grouped then [.processGroupLeader] else [])
    ++ (if o.resetSigmask then [.resetSigmask] else [])

/-! CLI -/
def isAsciiWs (c : Char) : Bool := c = ' ' || c = '\t' || c = '\n' || c = '\x0c' || c = '\r'

/-- `str::split_ascii_whitespace` -/
def splitWs : Str → Str → List Str
  | cur, [] => if cur.isEmpty then [] else [cur.reverse]
  | cur, c :: r => if isAsciiWs c then (if cur.isEmpty then splitWs [] r else cur.reverse :: splitWs [] r) else splitWs (c :: cur) r

inductive WrapMode | group | session | none deriving DecidableEq, Repr

structure CliCmd where
  program : List Str          -- trailing args, non-empty (clap)
  noShell : Bool
  shell : Option Str          -- --shell
  envShell : Option Str       -- $SHELL
  wrap : WrapMode

inductive CliErr | emptyShell deriving DecidableEq, Repr

def joinSp (l : List Str) : Str := (l.intersperse [' ']).flatten

def optsOf (a : CliCmd) : SpawnOptions := { grouped := a.wrap == .group, session := a.wrap == .session, resetSigmask := false }

def interpret (a : CliCmd) : Except CliErr (Program × SpawnOptions) :=
  let opts := optsOf a
  let exec : Except CliErr (Program × SpawnOptions) :=
    match a.program with
    | [] => .ok (.exec [] [], opts)   -- unreachable: clap requires a command
    | p :: r => .ok (.exec p r, opts)
  if a.noShell then exec else
  let sh : Str := ((a.shell.orElse (fun _ => a.envShell)).getD "sh".toList)
  if sh.isEmpty then .error .emptyShell
  else if sh = "none".toList then exec
  else match splitWs [] sh with
    | [] => .error .emptyShell   -- real code panics here (whitespace-only shell); see DESIGN observations
    | sp :: so => .ok (.shell { prog := sp, options := so, programOption := some "-c".toList } (joinSp a.program) [], opts)

end Wp
