import Wx.Pure.Signals
/-! C19: parsing a signal is case-insensitive — for EVERY input string, not only for sampled spellings. -/
namespace Wp
open Wp.Gen

/-- the 26 consecutive characters from code point `base` on: 65 the capitals, 97 the small letters -/
def letters (base : Nat) : List Char := (List.range 26).map fun i => Char.ofNat (base + i)

theorem mem_letters {base : Nat} {c : Char} (h : base ≤ c.toNat ∧ c.toNat ≤ base + 25) : c ∈ letters base :=
  List.mem_map.2 ⟨c.toNat - base, List.mem_range.2 (by omega),
    by rw [show base + (c.toNat - base) = c.toNat by omega, Char.ofNat_toNat]⟩

theorem upperC_cases (c : Char) : upperC c = c ∨ c ∈ letters 97 := by
  unfold upperC
  split <;> first | exact .inr (mem_letters (by decide)) | exact .inl rfl

theorem upperC_small : ∀ l ∈ letters 97, upperC l ∈ letters 65 := by decide +kernel

theorem upperC_capital : ∀ u ∈ letters 65, upperC u = u ∧ upperC (lowerC u) = u := by decide +kernel

theorem letters_plain_all : ∀ b ∈ [65, 97], ∀ x ∈ letters b, x.isDigit = false ∧ x ≠ '-' ∧ x ≠ '+' := by decide +kernel

theorem letters_plain {b : Nat} {x : Char} (hx : x ∈ letters b) (hb : b ∈ [65, 97] := by decide) :
    x.isDigit = false ∧ x ≠ '-' ∧ x ≠ '+' :=
  letters_plain_all b hb x hx

theorem upperC_idem (c : Char) : upperC (upperC c) = upperC c := by
  rcases upperC_cases c with h | h
  · rw [h, h]
  · exact (upperC_capital _ (upperC_small c h)).1

theorem upperC_lowerC (c : Char) : upperC (lowerC c) = upperC c := by
  by_cases h : 'A' ≤ c ∧ c ≤ 'Z'
  · -- `'A' ≤ c` is by definition `65 ≤ c.toNat`
    have := upperC_capital c (mem_letters h)
    rw [this.1, this.2]
  · rw [lowerC, if_neg h]

/-- `upperC` moves letters only, so it commutes with every test `parseInt` makes -/
theorem upperC_plain (c : Char) :
    (upperC c).isDigit = c.isDigit ∧ (upperC c = '-' ↔ c = '-') ∧ (upperC c = '+' ↔ c = '+') := by
  rcases upperC_cases c with h | h
  · rw [h]; exact ⟨rfl, Iff.rfl, Iff.rfl⟩
  · have hc := letters_plain h
    have hu := letters_plain (upperC_small c h)
    exact ⟨hu.1.trans hc.1.symm, iff_of_false hu.2.1 hc.2.1, iff_of_false hu.2.2 hc.2.2⟩

theorem upperC_of_digit (c : Char) (h : c.isDigit = true) : upperC c = c :=
  (upperC_cases c).resolve_right fun hl => by simp [(letters_plain hl).1] at h

theorem toUpper_cons (c : Char) (r : Str) : toUpper (c :: r) = upperC c :: toUpper r := rfl

theorem toUpper_idem (s : Str) : toUpper (toUpper s) = toUpper s := by
  simp [toUpper, upperC_idem]

theorem toUpper_all_digit (r : Str) : (toUpper r).all Char.isDigit = r.all Char.isDigit := by
  simp [toUpper, List.all_map, Function.comp_def, upperC_plain]

theorem toUpper_of_digits (r : Str) (h : r.all Char.isDigit = true) : toUpper r = r := by
  rw [List.all_eq_true] at h
  exact (List.map_congr_left fun c hc => upperC_of_digit c (h c hc)).trans (List.map_id r)

/-- what `parseInt` makes of the part after the sign -/
def digitsVal (ds : Str) : Option Nat :=
  if ds.isEmpty || !ds.all Char.isDigit then none else some (ds.foldl (fun (acc : Nat) c => acc * 10 + (c.toNat - 48)) 0)

theorem parseInt_minus (r : Str) : parseInt ('-' :: r) = (digitsVal r).map fun (n : Nat) => -(n : Int) := by
  unfold digitsVal; split <;> simp [parseInt, *]

theorem parseInt_plus (r : Str) : parseInt ('+' :: r) = (digitsVal r).map fun (n : Nat) => (n : Int) := by
  unfold digitsVal; split <;> simp [parseInt, *]

theorem parseInt_unsigned {c : Char} {r : Str} (hm : c ≠ '-') (hp : c ≠ '+') :
    parseInt (c :: r) = (digitsVal (c :: r)).map fun (n : Nat) => (n : Int) := by
  unfold parseInt digitsVal
  split
  next neg ds h =>
  -- `c` is no sign, so the sign match took its last arm
  obtain ⟨rfl, rfl⟩ : neg = false ∧ ds = c :: r := by split at h <;> simp_all
  split <;> rfl

theorem digitsVal_toUpper (r : Str) : digitsVal (toUpper r) = digitsVal r := by
  by_cases hd : r.all Char.isDigit = true
  · rw [toUpper_of_digits r hd]
  · simp [digitsVal, toUpper_all_digit, hd]

theorem parseInt_toUpper (s : Str) : parseInt (toUpper s) = parseInt s := by
  cases s with
  | nil => rfl
  | cons c r =>
    obtain ⟨-, minus, plus⟩ := upperC_plain c
    rw [toUpper_cons]
    by_cases hm : c = '-'
    · rw [minus.2 hm, hm, parseInt_minus, parseInt_minus, digitsVal_toUpper]
    by_cases hp : c = '+'
    · rw [plus.2 hp, hp, parseInt_plus, parseInt_plus, digitsVal_toUpper]
    rw [parseInt_unsigned (mt minus.1 hm) (mt plus.1 hp), parseInt_unsigned hm hp]
    exact congrArg _ (digitsVal_toUpper (c :: r))

/-- **case-insensitive for every string**: parsing looks at the input only through its upper-cased form -/
theorem parse_toUpper (s : Str) : parse (toUpper s) = parse s := by
  unfold parse fromWindowsStr fromUnixStr
  simp only [toUpper_idem, parseInt_toUpper]

theorem parse_case_insensitive (s s' : Str) (h : toUpper s = toUpper s') : parse s = parse s' := by
  rw [← parse_toUpper s, ← parse_toUpper s', h]

#print axioms parse_case_insensitive
end Wp
