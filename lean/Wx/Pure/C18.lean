import Wx.Pure.Spawn
/-! C18: the argv and the wrappers of a spawned command, without and with a shell. -/
namespace Wp

theorem argv_exec (p : Str) (a : List Str) : argv (.exec p a) = p :: a := rfl

theorem argv_shell (sh : Shell) (c : Str) (a : List Str) :
    argv (.shell sh c a) = [sh.prog] ++ sh.options ++ sh.programOption.toList ++ [c] ++ a := by
  simp [argv]

theorem wrappers_session (o : SpawnOptions) (h : o.session = true) :
    wrappers o = [.killOnDrop, .processSession] ++ (if o.resetSigmask then [.resetSigmask] else []) := by
  simp [wrappers, h]

theorem wrappers_grouped (o : SpawnOptions) (h : o.session = false) (g : o.grouped = true) :
    wrappers o = [.killOnDrop, .processGroupLeader] ++ (if o.resetSigmask then [.resetSigmask] else []) := by
  simp [wrappers, h, g]

theorem wrappers_plain (o : SpawnOptions) (h : o.session = false) (g : o.grouped = false) :
    wrappers o = [.killOnDrop] ++ (if o.resetSigmask then [.resetSigmask] else []) := by
  simp [wrappers, h, g]

/-- CLI `-n` / `--shell=none`: the trailing arguments are the argv, byte for byte -/
theorem interpret_noshell (a : CliCmd) (p : Str) (r : List Str) (hp : a.program = p :: r)
    (h : a.noShell = true ∨ (a.shell.orElse (fun _ => a.envShell)) = some "none".toList) :
    interpret a = .ok (.exec p r, optsOf a) ∧ argv (.exec p r) = a.program := by
  refine ⟨?_, hp.symm⟩
  cases hn : a.noShell
  · simp only [interpret, hn, hp, h.resolve_left (by simp [hn])]
    simp
  · simp [interpret, hn, hp]

theorem splitWs_clean : ∀ (s cur : Str), (∀ c ∈ cur, isAsciiWs c = false) →
    ∀ w ∈ splitWs cur s, w ≠ [] ∧ ∀ c ∈ w, isAsciiWs c = false := by
  intro s cur hc
  -- the arms of `splitWs`: end of input with no / a pending word, white space after no / a pending word, a word character
  fun_induction splitWs cur s with
  | case1 => simp
  | case2 cur h => simpa using ⟨mt List.isEmpty_iff.2 h, hc⟩
  | case3 _ _ _ _ _ ih => exact ih (by simp)
  | case4 cur _ _ _ h ih => simpa using ⟨⟨mt List.isEmpty_iff.2 h, hc⟩, ih (by simp)⟩
  | case5 _ _ _ h ih => exact ih (by simpa [h] using hc)

theorem flatten_splitWs (cur s : Str) : (splitWs cur s).flatten = cur.reverse ++ s.filter (fun c => !isAsciiWs c) := by
  fun_induction splitWs cur s <;> simp_all

/-- `flatten_splitWs` under a hypothesis it does not need -/
theorem splitWs_flatten : ∀ (s cur : Str), (∀ c ∈ cur, isAsciiWs c = false) →
    (splitWs cur s).flatten = cur.reverse ++ s.filter (fun c => !isAsciiWs c) :=
  fun s cur _ => flatten_splitWs cur s

theorem interpret_shell (a : CliCmd) (sh : Str) (hn : a.noShell = false)
    (hs : (a.shell.orElse (fun _ => a.envShell)).getD "sh".toList = sh)
    (h1 : sh ≠ "none".toList) (w : Str) (ws : List Str) (hw : splitWs [] sh = w :: ws) :
    interpret a = .ok (.shell ⟨w, ws, some "-c".toList⟩ (joinSp a.program) [], optsOf a) ∧
      argv (.shell ⟨w, ws, some "-c".toList⟩ (joinSp a.program) []) = (w :: ws) ++ ["-c".toList, joinSp a.program] := by
  have hne : sh.isEmpty = false := by
    cases sh with
    | nil => simp [splitWs] at hw
    | cons _ _ => rfl
  refine ⟨?_, by simp [argv]⟩
  simp only [interpret, hn, hs, hne, hw, h1]
  simp

end Wp
