import Wx.Pure.SignalsCase
/-! C19: theorems about the signal tables (regenerated from the source on every run). -/
namespace Wp
open Wp.Gen

def firstClass : List Signal := [.hangup, .forceStop, .interrupt, .quit, .terminate, .user1, .user2]
def validNums : List Int := nixTable.map (·.1)
/-- every signal the platform knows, in every constructor form -/
def allSignals : List Signal := firstClass ++ validNums.map Signal.custom ++ validNums.map fromNix

/-- compared through `toNix`: `.custom n` and the first-class constructor of the same number are two terms for one
    signal, and display-then-parse may swap them (`parse (display (.custom 1)) = some .hangup`) -/
theorem display_parse : ∀ s ∈ allSignals, (parse (display s)).bind toNix = toNix s := by decide +kernel

theorem posix_numbers :
    toNix .hangup = some 1 ∧ toNix .interrupt = some 2 ∧ toNix .quit = some 3 ∧ toNix .forceStop = some 9 ∧
    toNix .user1 = some 10 ∧ toNix .user2 = some 12 ∧ toNix .terminate = some 15 := by decide +kernel

def controlNames : List Str := windowsTable.map (·.1)

/-- the spellings of one signal, in upper, lower and capitalised form -/
def spellings (p : Int × Str) : List Str :=
  let short := p.2.drop 3
  let variants (s : Str) : List Str := [s, s.map lowerC, match s.map lowerC with | c :: r => upperC c :: r | [] => []]
  [showInt p.1] ++ variants p.2 ++ variants short

/-- number, SIG-name and short name as the platform table writes them; `spellings` adds the other letter cases,
    which `parse` does not see (`parse_case_insensitive`) -/
def plainSpellings (p : Int × Str) : List Str := [showInt p.1, p.2, p.2.drop 3]

theorem spellings_upper (p : Int × Str) (sp : Str) (h : sp ∈ spellings p) :
    ∃ u ∈ plainSpellings p, toUpper sp = toUpper u := by
  have variants (s : Str) : ∀ v ∈ [s, s.map lowerC, match s.map lowerC with | c :: r => upperC c :: r | [] => []],
      toUpper v = toUpper s := by
    cases s <;> simp [toUpper, upperC_lowerC, upperC_idem]
  simp only [spellings, List.mem_append] at h
  rcases h with (h | h) | h
  · exact ⟨sp, by simp_all [plainSpellings], rfl⟩
  · exact ⟨p.2, by simp [plainSpellings], variants _ _ h⟩
  · exact ⟨p.2.drop 3, by simp [plainSpellings], variants _ _ h⟩

/-- what C19 asks of a spelling `sp` of signal number `n`: it parses to `n` unless a control name takes it over, and
    that happens only for the documented `STOP`, and for `SIGKILL` / `KILL`, which name the same signal either way -/
def Agrees (n : Int) (sp : Str) : Prop :=
  (toUpper sp ∈ controlNames ∨ (parse sp).bind toNix = some n) ∧
  (toUpper sp ∈ controlNames →
    toUpper sp = ['S', 'T', 'O', 'P'] ∨ toUpper sp = ['S', 'I', 'G', 'K', 'I', 'L', 'L'] ∨ toUpper sp = ['K', 'I', 'L', 'L'])

/-- the one sweep over the platform table: three parses per row -/
theorem plainSpellings_agree : ∀ p ∈ nixTable, ∀ u ∈ plainSpellings p, Agrees p.1 u := by
  unfold Agrees
  decide +kernel

theorem Agrees.any_case {n : Int} {sp u : Str} (h : toUpper sp = toUpper u) (hu : Agrees n u) : Agrees n sp := by
  unfold Agrees at *
  rwa [h, parse_case_insensitive sp u h]

theorem agrees_of_mem_spellings {p : Int × Str} (hp : p ∈ nixTable) {sp : Str} (hsp : sp ∈ spellings p) : Agrees p.1 sp :=
  let ⟨u, hu, h⟩ := spellings_upper p sp hsp
  (plainSpellings_agree p hp u hu).any_case h

/-- number, SIG-name and short name agree in every letter case, except for the documented control names -/
theorem spellings_agree : ∀ p ∈ nixTable, ∀ sp ∈ spellings p,
    toUpper sp ∈ controlNames ∨ (parse sp).bind toNix = some p.1 :=
  fun _ hp _ hsp => (agrees_of_mem_spellings hp hsp).1

theorem only_stop_is_shadowed : ∀ p ∈ nixTable, ∀ sp ∈ spellings p,
    toUpper sp ∈ controlNames → toUpper sp = ['S', 'T', 'O', 'P'] ∨ toUpper sp = ['S', 'I', 'G', 'K', 'I', 'L', 'L'] ∨ toUpper sp = ['K', 'I', 'L', 'L'] :=
  fun _ hp _ hsp => (agrees_of_mem_spellings hp hsp).2

theorem fromI32_fromNix : ∀ n ∈ validNums, toNix (fromI32 n) = some n ∧ toNix (fromNix n) = some n := by decide +kernel

theorem fromStatus_exited (c : Nat) (h : c < 256) :
    fromStatus (c * 256) = if c = 0 then .success else .exitError c := by
  have h1 : c * 256 % 128 = 0 := by omega
  have h2 : c * 256 / 256 % 256 = c := by omega
  simp only [fromStatus, wifexited, wexitstatus, h1, h2]
  simp

/-- `core` is the core-dump bit -/
theorem fromStatus_signaled (g core : Nat) (h0 : g ≠ 0) (h : g < 127) (hc : core = 0 ∨ core = 128) :
    fromStatus (g + core) = .exitSignal (fromI32 g) := by
  have h1 : (g + core) % 128 = g := by omega
  have h2 : (g + core) % 256 ≠ 127 := by omega
  have h3 : g + core ≠ 65535 := by omega
  have h4 : g ≠ 127 := by omega
  simp [fromStatus, wifexited, wifsignaled, wtermsig, wifstopped, wifcontinued, h0, h1, h2, h3, h4]

theorem exit_codes : ∀ c ∈ List.range 256,
    fromStatus (c * 256) = if c = 0 then .success else .exitError c :=
  fun c hc => fromStatus_exited c (List.mem_range.1 hc)

theorem term_signals : ∀ g ∈ List.range 65, g ≠ 0 → ∀ core ∈ [0, 128],
    fromStatus (g + core) = .exitSignal (fromI32 g) :=
  fun g hg h0 core hc => fromStatus_signaled g core h0 (by have := List.mem_range.1 hg; omega) (by simpa using hc)

/-- the translator read every arm of `From<i32>`, `to_nix` and `from_nix` (an arm it cannot read would otherwise just be missing
    from the tables the theorems above quantify over) -/
theorem translator_complete : Wp.Gen.untranslated = [] := rfl

#print axioms spellings_agree
end Wp
