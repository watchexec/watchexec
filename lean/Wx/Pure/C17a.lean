import Wx.Pure.Summary
/-! C17 helper lemmas: common prefix is the greatest lower bound in the prefix order. -/
namespace Wp
open List

/-- one step of `common_prefix` -/
def cp (a b : List (Option Str)) : List (Option Str) := b.take (commonLen a b)

theorem prefix_cp_iff : ∀ {d a b : List (Option Str)}, d <+: cp a b ↔ d <+: a ∧ d <+: b
  | [], _, _ => by simp
  | x :: d, [], b => by simp [cp, commonLen]
  | x :: d, a :: as, [] => by simp [cp]
  | x :: d, a :: as, b :: bs => by
    unfold cp commonLen
    by_cases h : a = b
    · subst h
      simp only [beq_self_eq_true, if_true, List.take_succ_cons, List.cons_prefix_cons, ← and_and_left]
      exact and_congr_right fun _ => prefix_cp_iff
    · simp only [beq_iff_eq, h, if_false, List.take_zero, List.prefix_nil, List.cons_prefix_cons, reduceCtorEq, false_iff]
      rintro ⟨⟨rfl, _⟩, rfl, _⟩
      exact h rfl

/-- the fold of `common_prefix` -/
def foldCp (init : List (Option Str)) (rest : List P) : List (Option Str) :=
  rest.foldl (fun acc p => cp p.cs acc) init

theorem commonPrefix_cons (first : P) (rest : List P) : commonPrefix (first :: rest) =
    if (foldCp first.cs rest).isEmpty then none else some (ofCs (foldCp first.cs rest)) := rfl

theorem prefix_foldCp_iff : ∀ {rest : List P} {init d : List (Option Str)},
    d <+: foldCp init rest ↔ d <+: init ∧ ∀ q ∈ rest, d <+: q.cs
  | [], init, d => by simp [foldCp]
  | p :: rest, init, d => by
    rw [foldCp, List.foldl_cons, ← foldCp, prefix_foldCp_iff, prefix_cp_iff,
      List.forall_mem_cons, and_assoc, and_left_comm]

theorem filterMap_id_map_some (l : List Str) : (l.map some).filterMap id = l := by
  induction l <;> simp_all

/-- the hypothesis only says `l` is well formed (`none` at most at the head), which every prefix of a `cs` is -/
theorem ofCs_cs_of_prefix {l : List (Option Str)} {p : P} (h : l <+: p.cs) : (ofCs l).cs = l := by
  rcases p with ⟨abs, comps⟩
  cases abs
  · simp only [P.cs, Bool.false_eq_true, if_false, List.nil_append] at h
    obtain ⟨k, -, rfl⟩ := List.prefix_map_iff.1 h
    cases k <;> simp [ofCs, P.cs]
  · simp only [P.cs, if_true, List.singleton_append] at h
    cases l with
    | nil => simp [ofCs, P.cs]
    | cons x l =>
      rw [List.cons_prefix_cons] at h
      obtain ⟨rfl, h⟩ := h
      obtain ⟨k, -, rfl⟩ := List.prefix_map_iff.1 h
      simp [ofCs, P.cs]

theorem ofCs_cs (p : P) : ofCs p.cs = p := by
  rcases p with ⟨abs, comps⟩
  cases abs
  · cases comps <;> simp [ofCs, P.cs]
  · simp [ofCs, P.cs]

theorem cs_inj {p q : P} (h : p.cs = q.cs) : p = q := by rw [← ofCs_cs p, ← ofCs_cs q, h]

end Wp
