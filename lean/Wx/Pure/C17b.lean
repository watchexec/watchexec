import Wx.Pure.C17
import Wx.Pure.Gen.EnvBuckets
/-! C17: statements about the whole summary and the line format. -/
namespace Wp
open List

theorem insertS_mem (x y : Str) : ∀ l, y ∈ insertS x l ↔ y = x ∨ y ∈ l
  | [] => by simp [insertS]
  | z :: r => by
    unfold insertS
    split
    · simp
    · split
      · next h => subst h; simp
      · simp only [List.mem_cons, insertS_mem x y r]
        exact or_left_comm

theorem insertS_sorted (x : Str) : ∀ l, l.Pairwise (· < ·) → (insertS x l).Pairwise (· < ·)
  | [], _ => by simp [insertS]
  | z :: r, h => by
    unfold insertS
    rw [List.pairwise_cons] at h
    split
    · next hx =>
      refine List.pairwise_cons.2 ⟨?_, List.pairwise_cons.2 h⟩
      intro a ha
      rcases List.mem_cons.1 ha with rfl | ha
      · exact hx
      · exact List.lt_trans hx (h.1 a ha)
    · split
      · exact List.pairwise_cons.2 h
      · next h1 h2 =>
        refine List.pairwise_cons.2 ⟨?_, insertS_sorted x r h.2⟩
        intro a ha
        rcases (insertS_mem x a r).1 ha with rfl | ha
        · exact (List.le_iff_lt_or_eq.1 (List.not_lt.1 h1)).resolve_right fun e => h2 e.symm
        · exact h.1 a ha

theorem foldl_insertS (l : List Str) : ∀ acc, acc.Pairwise (· < ·) →
    (l.foldl (fun acc x => insertS x acc) acc).Pairwise (· < ·) ∧
    ∀ y, y ∈ l.foldl (fun acc x => insertS x acc) acc ↔ y ∈ l ∨ y ∈ acc := by
  induction l with
  | nil => intro acc h; simp [h]
  | cons x l ih =>
    intro acc h
    obtain ⟨h1, h2⟩ := ih (insertS x acc) (insertS_sorted x acc h)
    refine ⟨h1, fun y => ?_⟩
    rw [List.foldl_cons, h2, insertS_mem, List.mem_cons]
    exact or_left_comm.trans or_assoc.symm

theorem sortDedup_spec (l : List Str) :
    (sortDedup l).Pairwise (· < ·) ∧ ∀ y, y ∈ sortDedup l ↔ y ∈ l := by
  have := foldl_insertS l [] List.Pairwise.nil
  exact ⟨this.1, fun y => by rw [sortDedup, this.2]; simp⟩

/-- the documented kind → variable table (`bucket`, transcribed from the rustdoc of `summarise_events_to_env`) is the
    `match` in the code (`Gen.bucketGen`, regenerated from crates/lib/src/paths.rs on every run) — all 41 kinds -/
theorem bucket_is_code_all : ∀ k ∈ allKinds, bucket k = Gen.bucketGen k := by decide +kernel
theorem bucket_is_code (k : EventKind) : bucket k = Gen.bucketGen k := bucket_is_code_all k (allKinds_complete k)

theorem summarise_fst (evs : List Ev) : (summarise evs).1 = commonPrefix (trunks evs) := rfl

theorem bucket_mem (k : EventKind) : bucket k ∈ bucketNames := by
  unfold bucket bucketNames; split <;> simp

theorem mem_pathed {evs : List Ev} {e : Ev} {x : P × Option FT} (he : e ∈ evs) (hx : x ∈ e.paths) : e ∈ pathed evs :=
  List.mem_filter.2 ⟨he, by cases h : e.paths <;> simp_all⟩

theorem mem_bucketPaths {evs : List Ev} {b : String} {p : P} :
    p ∈ bucketPaths evs b ↔
      ∃ e ∈ evs, (∃ k ∈ e.kinds, bucket k = b) ∧ ∃ ft, (p, ft) ∈ e.paths := by
  simp only [bucketPaths, List.mem_flatMap]
  constructor
  · rintro ⟨e, he, hp⟩
    split at hp
    · next hb =>
      obtain ⟨⟨p', ft⟩, hm, rfl⟩ := List.mem_map.1 hp
      exact ⟨e, (List.mem_filter.1 he).1, by simpa [hasBucket] using hb, ft, hm⟩
    · cases hp
  · rintro ⟨e, he, hk, ft, hm⟩
    refine ⟨e, mem_pathed he hm, ?_⟩
    rw [if_pos (by simpa [hasBucket] using hk)]
    exact List.mem_map.2 ⟨(p, ft), hm, rfl⟩

/-- Categorisation: the variable `b` is present iff some pathed event has a kind of that bucket, and
its entries are exactly the entries of those events' paths, byte-sorted without duplicates.
Events with no path or no kind contribute nothing (they satisfy neither side). -/
theorem summarise_vars (evs : List Ev) (b : String) (es : List Str) :
    (b, es) ∈ (summarise evs).2 ↔
      b ∈ bucketNames ∧ bucketPaths evs b ≠ [] ∧
      es = sortDedup ((bucketPaths evs b).map (entryOf (summarise evs).1)) := by
  simp only [summarise, List.mem_filterMap]
  constructor
  · rintro ⟨b', hb', h⟩
    split at h
    · cases h
    · next hne =>
      injection h with h; injection h with h1 h2
      subst h1
      exact ⟨hb', by simpa using hne, h2.symm⟩
  · rintro ⟨hb, hne, rfl⟩
    refine ⟨b, hb, ?_⟩
    rw [if_neg (by simpa using hne)]

theorem summarise_entries (evs : List Ev) (b : String) (es : List Str) (h : (b, es) ∈ (summarise evs).2) :
    es.Pairwise (· < ·) ∧
    ∀ y, y ∈ es ↔ ∃ e ∈ evs, (∃ k ∈ e.kinds, bucket k = b) ∧ ∃ p ft, (p, ft) ∈ e.paths ∧
                    y = entryOf (summarise evs).1 p := by
  obtain ⟨_, _, rfl⟩ := (summarise_vars evs b es).1 h
  refine ⟨(sortDedup_spec _).1, fun y => ?_⟩
  rw [(sortDedup_spec _).2, List.mem_map]
  constructor
  · rintro ⟨p, hp, rfl⟩
    obtain ⟨e, he, hk, ft, hm⟩ := mem_bucketPaths.1 hp
    exact ⟨e, he, hk, p, ft, hm, rfl⟩
  · rintro ⟨e, he, hk, p, ft, hm, rfl⟩
    exact ⟨p, mem_bucketPaths.2 ⟨e, he, hk, ft, hm⟩, rfl⟩

theorem summarise_complete (evs : List Ev) (e : Ev) (he : e ∈ evs) (k : EventKind) (hk : k ∈ e.kinds)
    (p : P) (ft : Option FT) (hp : (p, ft) ∈ e.paths) :
    ∃ es, (bucket k, es) ∈ (summarise evs).2 ∧ entryOf (summarise evs).1 p ∈ es := by
  have hm : p ∈ bucketPaths evs (bucket k) := mem_bucketPaths.2 ⟨e, he, ⟨k, hk, rfl⟩, ft, hp⟩
  refine ⟨_, (summarise_vars evs _ _).2 ⟨bucket_mem k, List.ne_nil_of_mem hm, rfl⟩, ?_⟩
  rw [(sortDedup_spec _).2]
  exact List.mem_map.2 ⟨p, hm, rfl⟩

/-- Faithfulness: when COMMON is set, the entry listed for any path of any event is a relative path
whose join with COMMON is the original path. -/
theorem entry_faithful (evs : List Ev) (c : P) (hc : (summarise evs).1 = some c)
    (e : Ev) (he : e ∈ evs) (p : P) (ft : Option FT) (hp : (p, ft) ∈ e.paths) :
    ∃ s, s.abs = false ∧ c.join s = p ∧ entryOf (some c) p = s.render := by
  rw [summarise_fst] at hc
  have hmem : trunk p ft ∈ trunks evs :=
    List.mem_flatMap.2 ⟨e, mem_pathed he hp, List.mem_map.2 ⟨(p, ft), hp, rfl⟩⟩
  have hu : c.under p := List.IsPrefix.trans (common_is_prefix hc _ hmem) (trunk_under p ft)
  obtain ⟨s, hs, habs, hj⟩ := strip_join hu (common_ne_nil hc)
  exact ⟨s, habs, hj, by simp [entryOf, hs]⟩

theorem entry_no_common (p : P) : entryOf none p = p.render := rfl

theorem common_longest (evs : List Ev) (c : P) (hc : (summarise evs).1 = some c) :
    (∀ t ∈ trunks evs, c.under t) ∧ ∀ d : P, (∀ t ∈ trunks evs, d.under t) → d.under c := by
  rw [summarise_fst] at hc
  exact ⟨common_is_prefix hc, common_is_longest hc⟩

def eventLines (e : Ev) : List Str :=
  e.paths.flatMap (fun (p, _) =>
    if e.kinds.isEmpty then ["other:".toList ++ p.render]
    else e.kinds.map (fun k => (simpleName k).toList ++ [':'] ++ p.render))

theorem simpleFormat_eq (evs : List Ev) : simpleFormat evs = evs.flatMap eventLines := rfl

theorem simpleFormat_append (a b : List Ev) : simpleFormat (a ++ b) = simpleFormat a ++ simpleFormat b := by
  simp only [simpleFormat_eq, List.flatMap_append]

theorem eventLines_length (e : Ev) (h : e.kinds ≠ []) : (eventLines e).length = e.paths.length * e.kinds.length := by
  have : e.kinds.isEmpty = false := by simpa using h
  simp [eventLines, this, List.length_flatMap, List.map_const']

end Wp
