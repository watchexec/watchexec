import Wx.Base.Str
/-! File event kinds (notify-types `EventKind` family) and their derived `Debug` text. -/
namespace Wp

inductive AccessMode | any | execute | read | write | other deriving DecidableEq, Repr
inductive AccessKind | any | read | open_ (m : AccessMode) | close (m : AccessMode) | other deriving DecidableEq, Repr
inductive CreateKind | any | file | folder | other deriving DecidableEq, Repr
inductive DataChange | any | size | content | other deriving DecidableEq, Repr
inductive MetadataKind | any | accessTime | writeTime | permissions | ownership | extended | other deriving DecidableEq, Repr
inductive RenameMode | any | to_ | from_ | both | other deriving DecidableEq, Repr
inductive ModifyKind | any | data (d : DataChange) | metadata (m : MetadataKind) | name (r : RenameMode) | other deriving DecidableEq, Repr
inductive RemoveKind | any | file | folder | other deriving DecidableEq, Repr
inductive EventKind | any | access (k : AccessKind) | create (k : CreateKind) | modify (k : ModifyKind) | remove (k : RemoveKind) | other
  deriving DecidableEq, Repr


def wrap (name : String) (inner : Str) : Str := name.toList ++ ['('] ++ inner ++ [')']

def AccessMode.dbg : AccessMode → Str
  | .any => "Any".toList | .execute => "Execute".toList | .read => "Read".toList | .write => "Write".toList | .other => "Other".toList
def AccessKind.dbg : AccessKind → Str
  | .any => "Any".toList | .read => "Read".toList | .open_ m => wrap "Open" m.dbg | .close m => wrap "Close" m.dbg | .other => "Other".toList
def CreateKind.dbg : CreateKind → Str
  | .any => "Any".toList | .file => "File".toList | .folder => "Folder".toList | .other => "Other".toList
def DataChange.dbg : DataChange → Str
  | .any => "Any".toList | .size => "Size".toList | .content => "Content".toList | .other => "Other".toList
def MetadataKind.dbg : MetadataKind → Str
  | .any => "Any".toList | .accessTime => "AccessTime".toList | .writeTime => "WriteTime".toList
  | .permissions => "Permissions".toList | .ownership => "Ownership".toList | .extended => "Extended".toList | .other => "Other".toList
def RenameMode.dbg : RenameMode → Str
  | .any => "Any".toList | .to_ => "To".toList | .from_ => "From".toList | .both => "Both".toList | .other => "Other".toList
def ModifyKind.dbg : ModifyKind → Str
  | .any => "Any".toList | .data d => wrap "Data" d.dbg | .metadata m => wrap "Metadata" m.dbg | .name r => wrap "Name" r.dbg | .other => "Other".toList
def RemoveKind.dbg : RemoveKind → Str
  | .any => "Any".toList | .file => "File".toList | .folder => "Folder".toList | .other => "Other".toList
def EventKind.dbg : EventKind → Str
  | .any => "Any".toList | .access k => wrap "Access" k.dbg | .create k => wrap "Create" k.dbg
  | .modify k => wrap "Modify" k.dbg | .remove k => wrap "Remove" k.dbg | .other => "Other".toList

def allModes : List AccessMode := [.any, .execute, .read, .write, .other]
def allKinds : List EventKind :=
  [.any, .other] ++
  ([AccessKind.any, .read, .other] ++ allModes.map AccessKind.open_ ++ allModes.map AccessKind.close).map EventKind.access ++
  [CreateKind.any, .file, .folder, .other].map EventKind.create ++
  ([ModifyKind.any, .other] ++ [DataChange.any, .size, .content, .other].map ModifyKind.data ++
    [MetadataKind.any, .accessTime, .writeTime, .permissions, .ownership, .extended, .other].map ModifyKind.metadata ++
    [RenameMode.any, .to_, .from_, .both, .other].map ModifyKind.name).map EventKind.modify ++
  [RemoveKind.any, .file, .folder, .other].map EventKind.remove

theorem allKinds_complete (k : EventKind) : k ∈ allKinds := by
  cases k with
  | access a => cases a with
    | open_ m | close m => cases m <;> decide +kernel
    | _ => decide +kernel
  | modify a => cases a with
    | data x | metadata x | name x => cases x <;> decide +kernel
    | _ => decide +kernel
  | create a | remove a => cases a <;> decide +kernel
  | _ => decide +kernel

end Wp
