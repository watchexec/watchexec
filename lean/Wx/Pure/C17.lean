import Wx.Pure.C17a
/-! C17 (paths.rs): `commonPrefix` of the trunks is their longest common prefix in the order `Path::starts_with` decides,
    and a path under it is the prefix joined with what `strip` leaves. -/
namespace Wp
open List

/-- the prefix order `Path::starts_with` decides -/
def P.under (c p : P) : Prop := c.cs <+: p.cs

theorem commonPrefix_some {ts : List P} {c : P} (h : commonPrefix ts = some c) :
    ∃ first rest, ts = first :: rest ∧ c.cs = foldCp first.cs rest ∧ c.cs ≠ [] := by
  cases ts with
  | nil => simp [commonPrefix] at h
  | cons first rest =>
    refine ⟨first, rest, rfl, ?_⟩
    rw [commonPrefix_cons] at h
    split at h
    · cases h
    · next hne =>
      injection h with h
      subst h
      have : (ofCs (foldCp first.cs rest)).cs = foldCp first.cs rest :=
        ofCs_cs_of_prefix (prefix_foldCp_iff.1 (List.prefix_refl _)).1
      exact ⟨this, fun e => hne (List.isEmpty_iff.2 (this.symm.trans e))⟩

theorem common_ne_nil {ts : List P} {c : P} (h : commonPrefix ts = some c) : c.cs ≠ [] :=
  let ⟨_, _, _, _, hne⟩ := commonPrefix_some h
  hne

theorem under_common_iff {ts : List P} {c : P} (h : commonPrefix ts = some c) (d : P) :
    d.under c ↔ ∀ t ∈ ts, d.under t := by
  obtain ⟨first, rest, rfl, hc, _⟩ := commonPrefix_some h
  unfold P.under
  rw [hc, prefix_foldCp_iff, List.forall_mem_cons]

theorem common_is_prefix {ts : List P} {c : P} (h : commonPrefix ts = some c) :
    ∀ t ∈ ts, c.under t := (under_common_iff h c).1 (List.prefix_refl _)

theorem common_is_longest {ts : List P} {c : P} (h : commonPrefix ts = some c)
    (d : P) (hd : ∀ t ∈ ts, d.under t) : d.under c := (under_common_iff h d).2 hd

/-- no COMMON only when there are no trunks or they share no component at all (not even the root) -/
theorem common_none {ts : List P} (h : commonPrefix ts = none) (hne : ts ≠ [])
    (d : P) (hd : ∀ t ∈ ts, d.under t) : d.cs = [] := by
  cases ts with
  | nil => exact absurd rfl hne
  | cons first rest =>
    rw [commonPrefix_cons] at h
    split at h
    · next he => exact List.prefix_nil.1 (List.isEmpty_iff.1 he ▸ prefix_foldCp_iff.2 (List.forall_mem_cons.1 hd))
    · cases h

theorem parent_under {p q : P} (h : p.parent = some q) : q.under p := by
  unfold P.parent at h
  split at h
  · cases h
  · next x r hr =>
    injection h with h; subst h
    have : p.comps = r.reverse ++ [x] := by simpa using congrArg List.reverse hr
    simp [P.under, P.cs, this]

theorem trunk_under (p : P) (ft : Option FT) : (trunk p ft).under p := by
  unfold trunk
  split
  · exact List.prefix_refl _
  · cases h : p.parent with
    | none => exact List.prefix_refl _
    | some q => exact parent_under h

theorem strip_join {c p : P} (h : c.under p) (hne : c.cs ≠ []) :
    ∃ s, c.strip p = some s ∧ s.abs = false ∧ c.join s = p := by
  rcases c with ⟨ca, cc⟩; rcases p with ⟨pa, pc⟩
  have inj := @List.prefix_map_iff_of_injective _ _ cc pc _ (fun _ _ => Option.some.inj)
  -- a non-empty component list is under another only with the same root, component by component
  have key : ca = pa ∧ cc <+: pc := by
    cases ca <;> cases pa <;> simp [P.under, P.cs, inj] at h hne ⊢
    · exact h
    · cases cc <;> simp_all
    · cases pc <;> simp_all
    · exact h
  obtain ⟨rfl, t, rfl⟩ := key
  exact ⟨⟨false, t⟩, by simp [P.strip], rfl, by simp [P.join]⟩

end Wp
