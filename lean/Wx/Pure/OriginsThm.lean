import Wx.Pure.Origins
import Wx.Pure.Gen.Origins
/-! C20: theorems about the origin / type tables (regenerated from the source on every run) and the functions over them.
    Kept apart from `Wx.Pure.Origins` so that the model driver builds whatever the tables say. -/
namespace Wp
open Wp.Gen

-- the code's `check_list`, `origins()`, `types()`: the same functions over the REGENERATED tables
def isOrigin (l : Listing) : Bool := isOriginWith originMarkers l
def origins (chain : List (String × Listing)) : List String := originsWith originMarkers chain
def types (l : Listing) : List ProjectType := typesWith typeMarkers l

theorem mem_originsWith (om : List (String × Bool)) (chain : List (String × Listing)) (d : String) :
    d ∈ originsWith om chain ↔ ∃ l, (d, l) ∈ chain ∧ l ≠ [] ∧ ∃ m ∈ om, present l m = true := by
  simp only [originsWith, isOriginWith, List.mem_map, List.mem_filter, Bool.and_eq_true, Bool.not_eq_true',
    List.isEmpty_eq_false_iff, List.any_eq_true]
  constructor
  · rintro ⟨⟨d', l⟩, ⟨hm, hne, hmk⟩, rfl⟩; exact ⟨l, hm, hne, hmk⟩
  · rintro ⟨l, hm, hne, hmk⟩; exact ⟨(d, l), ⟨hm, hne, hmk⟩, rfl⟩

theorem mem_typesWith {α : Type} (tm : List (String × Bool × α)) (l : Listing) (t : α) :
    t ∈ typesWith tm l ↔ ∃ name isDir, (name, isDir, t) ∈ tm ∧ present l (name, isDir) = true := by
  simp only [typesWith, List.mem_map, List.mem_filter]
  constructor
  · rintro ⟨⟨n, d, t'⟩, ⟨hm, hp⟩, rfl⟩; exact ⟨n, d, hm, hp⟩
  · rintro ⟨n, d, hm, hp⟩; exact ⟨(n, d, t), ⟨hm, hp⟩, rfl⟩

theorem typesWith_map {α β : Type} (g : α → β) (tm : List (String × Bool × α)) (l : Listing) :
    typesWith (tm.map fun m => (m.1, m.2.1, g m.2.2)) l = (typesWith tm l).map g := by
  simp [typesWith, List.filter_map, Function.comp_def]

theorem origins_exact (chain : List (String × Listing)) (d : String) :
    d ∈ origins chain ↔ ∃ l, (d, l) ∈ chain ∧ l ≠ [] ∧ ∃ m ∈ originMarkers, present l m = true :=
  mem_originsWith originMarkers chain d

theorem origins_sublist (chain : List (String × Listing)) : (origins chain).Sublist (chain.map (·.1)) :=
  List.Sublist.map _ List.filter_sublist

theorem types_exact (l : Listing) (t : ProjectType) :
    t ∈ types l ↔ ∃ name isDir, (name, isDir, t) ∈ typeMarkers ∧ present l (name, isDir) = true :=
  mem_typesWith typeMarkers l t

example : types [("Cargo.toml", .dir)] = [] := by decide +kernel
example : types [("Cargo.toml", .file), (".git", .dir)] = [.git, .cargo] := by decide +kernel

/-- the documented table (transcribed by hand from the rustdoc of `ProjectType`) -/
def documented : List (String × Bool × ProjectType) := [
  (".bzr", true, .bazaar), (".bzrignore", false, .bazaar),
  ("_darcs", true, .darcs),
  (".fossil-settings", true, .fossil),
  (".git", true, .git), (".git", false, .git), (".gitattributes", false, .git), (".gitmodules", false, .git),
  (".hg", true, .mercurial), (".hgignore", false, .mercurial), (".hgtags", false, .mercurial),
  (".svn", true, .subversion),
  ("Gemfile", false, .bundler),
  (".ctags", false, .c),
  ("Cargo.toml", false, .cargo),
  ("Dockerfile", false, .docker),
  ("mix.exs", false, .elixir),
  ("go.mod", false, .go), ("go.sum", false, .go),
  ("build.gradle", false, .gradle),
  ("package.json", false, .javaScript), ("cgmanifest.json", false, .javaScript),
  ("project.clj", false, .leiningen),
  ("pom.xml", false, .maven),
  (".perltidyrc", false, .perl), ("Makefile.PL", false, .perl),
  ("composer.json", false, .pHP),
  ("requirements.txt", false, .pip), ("Pipfile", false, .pip),
  ("v.mod", false, .v),
  ("build.zig", false, .zig)]

theorem typeMarkers_documented :
    (∀ m ∈ typeMarkers, m ∈ documented) ∧ (∀ m ∈ documented, m ∈ typeMarkers) := by decide +kernel

/-- name of a project type as the harness prints it -/
def ptNameK : ProjectType → String
  | .bazaar => "bazaar"
  | .bundler => "bundler"
  | .c => "c"
  | .cargo => "cargo"
  | .darcs => "darcs"
  | .docker => "docker"
  | .elixir => "elixir"
  | .fossil => "fossil"
  | .git => "git"
  | .go => "go"
  | .gradle => "gradle"
  | .javaScript => "javaScript"
  | .leiningen => "leiningen"
  | .maven => "maven"
  | .mercurial => "mercurial"
  | .pHP => "pHP"
  | .perl => "perl"
  | .pijul => "pijul"
  | .pip => "pip"
  | .subversion => "subversion"
  | .v => "v"
  | .zig => "zig"

theorem documentedS_typed : documentedS = documented.map (fun m => (m.1, m.2.1, ptNameK m.2.2)) := rfl

theorem originMarkers_recognised : originMarkers = recognised := rfl

/-- the translator read every marker probe of `origins()` and `types()`: no probe through a helper it does not know, none with a
    non-literal name (such a probe would otherwise just be missing from the tables above) -/
theorem origins_translator_complete : untranslatedOrigins = [] := rfl

theorem typeMarkers_are_originMarkers : ∀ m ∈ typeMarkers, (m.1, m.2.1) ∈ originMarkers := by decide +kernel

theorem isVcs_documented : ∀ t ∈ ProjectType.all, isVcs t = (docClass t == "VCS") := by decide
theorem all_complete (t : ProjectType) : t ∈ ProjectType.all := by cases t <;> decide

def exactlyOne : Bool := ProjectType.all.all (fun t => isVcs t != isSoft t)

theorem exactlyOne_holds : exactlyOne = true := by decide

/-- C20's last sentence: every project type is exactly one of version control / software suite -/
theorem classified (t : ProjectType) : isVcs t ≠ isSoft t :=
  bne_iff_ne.1 (List.all_eq_true.1 exactlyOne_holds t (all_complete t))

/-- the classification is the documented one for every type (doc comment says `VCS:` or `Soft:`) -/
theorem isSoft_documented : ∀ t ∈ ProjectType.all, isSoft t = (docClass t == "Soft") := by decide

theorem origins_eq_doc (chain : List (String × Listing)) : origins chain = originsDoc chain := by
  unfold origins originsDoc; rw [originMarkers_recognised]

/-- only as sets: the code's table order is not the rustdoc's -/
theorem types_eq_doc (l : Listing) (n : String) : n ∈ typesDoc l ↔ ∃ t ∈ types l, ptNameK t = n := by
  have same (t) : t ∈ typesWith documented l ↔ t ∈ types l := by
    simp only [types, mem_typesWith]
    exact ⟨fun ⟨a, b, h, hp⟩ => ⟨a, b, typeMarkers_documented.2 _ h, hp⟩,
      fun ⟨a, b, h, hp⟩ => ⟨a, b, typeMarkers_documented.1 _ h, hp⟩⟩
  rw [typesDoc, documentedS_typed, typesWith_map, List.mem_map]
  simp only [same]

end Wp
