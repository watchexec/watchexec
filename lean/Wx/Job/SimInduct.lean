import Wx.Job.Frame
/-! One induction principle for everything the simulator can reach: a property proves a handful of local
    obligations and gets every script, every child behaviour and every race resolution.
    `SimInv3` is the general form (an invariant of the whole simulator state that may depend on the clock);
    `SimInv2` (clock-independent) and `SimInv` (about the task state alone) are special cases of it. -/
namespace Jm

theorem injectAll_ind (P : Sim → Prop) (p : Prio) (cs : List Ctl) (aw : Bool)
    (hturn : ∀ x s', P x → s' ∈ turns x.st → P { x with st := s' }) (hsend : ∀ x, P x → P (doSend x p cs aw))
    (fuel : Nat) {x : Sim} (h : P x) : ∀ y ∈ injectAll fuel x p cs aw, P y := by
  induction fuel generalizing x with
  | zero => intro y hy; simp [injectAll] at hy; subst hy; exact h
  | succ n ih =>
    intro y hy
    unfold injectAll at hy
    by_cases hal : (!x.st.alive) = true
    · simp only [hal, if_true, List.mem_singleton] at hy; subst hy; exact h
    simp only [hal, Bool.false_eq_true, if_false] at hy
    have hal' : x.st.alive = true := by simpa using hal
    by_cases hemp : ((waitTurns x.st).isEmpty && (recvTurns x.st).isEmpty) = true
    · simp only [hemp, if_true, List.mem_singleton] at hy; subst hy; exact h
    simp only [hemp, Bool.false_eq_true, if_false] at hy
    have hne' : turnCandidates x.st ≠ [] := by
      intro he
      rw [turnCandidates_eq] at he
      obtain ⟨h1, h2⟩ := List.append_eq_nil_iff.1 he
      apply hemp
      simp [h1, h2]
    have hT := turns_eq_candidates hal' hne'
    rcases List.mem_append.1 hy with hy | hy
    · obtain ⟨s', hs', hy'⟩ := List.mem_flatMap.1 hy
      have hmem : s' ∈ turns x.st := by rw [hT, turnCandidates_eq]; exact List.mem_append_left _ hs'
      exact ih (hturn x s' h hmem) y hy'
    · obtain ⟨s', hs', rfl⟩ := List.mem_map.1 hy
      have hmem : s' ∈ turns x.st := by rw [hT, turnCandidates_eq]; exact List.mem_append_right _ hs'
      exact hsend _ (hturn x s' h hmem)

theorem settleAll_ind (P : Sim → Prop) (hturn : ∀ x s', P x → s' ∈ turns x.st → P { x with st := s' })
    (hpark : ∀ x, P x → P { x with st := park x.st }) (hdrain : ∀ x, P x → P { x with st := drainPolls x.st })
    (fuel : Nat) {x : Sim} (h : P x) : ∀ s ∈ settleAll fuel x.st, P { x with st := s } := by
  induction fuel generalizing x with
  | zero => intro s hs; simp [settleAll] at hs; subst hs; exact h
  | succ n ih =>
    intro s hs
    unfold settleAll at hs
    cases hts : turns x.st with
    | nil =>
      simp only [hts] at hs
      by_cases hp : (park x.st).pendingPolls.isEmpty = true
      · simp only [hp, if_true, List.mem_singleton] at hs; subst hs; exact hpark _ h
      · simp only [hp, Bool.false_eq_true, if_false] at hs
        exact ih (x := { x with st := drainPolls (park x.st) }) (hdrain _ (hpark _ h)) s hs
    | cons t ts =>
      simp only [hts] at hs
      obtain ⟨y, hy, hsy⟩ := List.mem_flatMap.mp hs
      exact ih (x := { x with st := y }) (hturn x y h (by rw [hts]; exact hy)) s hsy

def sendOne (x : Sim) (p : Prio) (c : Ctl) : Sim :=
  { x with st := enqueue x.st p ⟨c, x.nextFlag⟩, nextFlag := x.nextFlag + 1 }

/-- `x.nextFlag - 1` is the flag of the burst's last control: `sendOne` has already incremented `nextFlag` -/
def finishSend (x : Sim) (aw : Bool) : Sim :=
  let w := x.nextWaiter
  let st := if aw then pollWaiter { x.st with waiters := x.st.waiters ++ [{ id := w, done := x.nextFlag - 1 }] } w else x.st
  { x with st := st, nextWaiter := w + 1 }

def cancelSend (x : Sim) (aw : Bool) : Sim :=
  { x with st := (if aw then x.st.emit (.ticket x.nextWaiter) else x.st), nextWaiter := x.nextWaiter + 1 }

theorem fold_eq (p : Prio) (ctls : List Ctl) (x : Sim) (last : FlagId) :
    ctls.foldl (fun (acc : St × FlagId × FlagId) c =>
        let (st, nf, _) := acc
        (enqueue st p ⟨c, nf⟩, nf + 1, nf)) (x.st, x.nextFlag, last) =
      ((ctls.foldl (fun y c => sendOne y p c) x).st, (ctls.foldl (fun y c => sendOne y p c) x).nextFlag,
        if ctls.isEmpty then last else (ctls.foldl (fun y c => sendOne y p c) x).nextFlag - 1) := by
  induction ctls generalizing x last with
  | nil => simp
  | cons c cs ih =>
    simp only [List.foldl_cons]
    have := ih (sendOne x p c) x.nextFlag
    simp only [sendOne] at this ⊢
    rw [this]
    cases cs with
    | nil => simp
    | cons d ds => simp

theorem fold_waiter (p : Prio) (ctls : List Ctl) (x : Sim) :
    (ctls.foldl (fun y c => sendOne y p c) x).nextWaiter = x.nextWaiter := by
  induction ctls generalizing x with
  | nil => rfl
  | cons c cs ih => simp only [List.foldl_cons]; rw [ih]; rfl

theorem doSend_eq (x : Sim) (p : Prio) (ctls : List Ctl) (aw : Bool) :
    doSend x p ctls aw =
      if x.st.isRaised 0 || ctls.isEmpty then cancelSend x aw else finishSend (ctls.foldl (fun y c => sendOne y p c) x) aw := by
  unfold doSend
  simp only []
  split
  · rfl
  · next h =>
    have hne : ctls.isEmpty = false := by
      cases hc : ctls.isEmpty
      · rfl
      · simp [hc] at h
    rw [fold_eq p ctls x 0]
    simp only [hne, Bool.false_eq_true, if_false, finishSend, fold_waiter]

theorem doSend_ind {SendOk : Prio → Ctl → Prop} (P : Sim → Prop) (p : Prio) (cs : List Ctl) (aw : Bool) (hs : ∀ c ∈ cs, SendOk p c)
    (hcancel : ∀ x, P x → P (cancelSend x aw)) (hone : ∀ x c, SendOk p c → P x → P (sendOne x p c))
    (hfinish : ∀ x, P x → P (finishSend x aw)) {x : Sim} (h : P x) : P (doSend x p cs aw) := by
  have all : P (cs.foldl (fun y c => sendOne y p c) x) := by
    induction cs generalizing x with
    | nil => exact h
    | cons c l ih => exact ih (fun c' hc' => hs c' (List.mem_cons_of_mem _ hc')) (hone _ _ (hs c List.mem_cons_self) h)
  rw [doSend_eq]
  split
  · exact hcancel _ h
  · exact hfinish _ all

def minFold (l : List Nat) (acc : Option Nat) : Option Nat :=
  l.foldl (fun acc x => match acc with | none => some x | some a => some (min a x)) acc

theorem minFold_some (l : List Nat) (a : Nat) : ∃ t, minFold l (some a) = some t ∧ t ≤ a ∧ (∀ x ∈ l, t ≤ x) ∧ (t = a ∨ t ∈ l) := by
  induction l generalizing a with
  | nil => exact ⟨a, rfl, Nat.le_refl _, by simp, Or.inl rfl⟩
  | cons y l ih =>
    obtain ⟨t, h1, h2, h3, h4⟩ := ih (min a y)
    refine ⟨t, by simpa [minFold] using h1, Nat.le_trans h2 (Nat.min_le_left _ _), ?_, ?_⟩
    · intro x hx
      rcases List.mem_cons.1 hx with rfl | hx
      · exact Nat.le_trans h2 (Nat.min_le_right _ _)
      · exact h3 x hx
    · rcases h4 with h4 | h4
      · by_cases hay : a ≤ y
        · left; rw [h4]; exact Nat.min_eq_left hay
        · right; rw [h4, Nat.min_eq_right (by omega)]; exact List.mem_cons_self
      · right; exact List.mem_cons_of_mem _ h4

theorem minFold_none (l : List Nat) : (minFold l none = none → l = []) ∧
    (∀ t, minFold l none = some t → (∀ x ∈ l, t ≤ x) ∧ t ∈ l) := by
  cases l with
  | nil => exact ⟨fun _ => rfl, fun t h => (by simp [minFold] at h)⟩
  | cons y l =>
    obtain ⟨t, h1, h2, h3, h4⟩ := minFold_some l y
    have e : minFold (y :: l) none = some t := by simpa [minFold] using h1
    refine ⟨fun h => (by rw [e] at h; cases h), fun t' h => ?_⟩
    rw [e] at h; injection h with h; subst h
    refine ⟨?_, ?_⟩
    · intro x hx
      rcases List.mem_cons.1 hx with rfl | hx
      · exact h2
      · exact h3 x hx
    · rcases h4 with rfl | h4
      · exact List.mem_cons_self
      · exact List.mem_cons_of_mem _ h4

def childEvents (s : St) (target : Nat) : List Nat :=
  match s.cs with
  | .running c => match s.child? c with
    | some ch => match ch.exitAt with | some t => if s.now < t ∧ t ≤ target then [t] else [] | none => []
    | none => []
  | _ => []

def timerEvents (s : St) (target : Nat) : List Nat :=
  match s.timer with | some t => if s.now < t.until_ ∧ t.until_ ≤ target then [t.until_] else [] | none => []

theorem nextEvent_eq (s : St) (target : Nat) : nextEvent s target = minFold (childEvents s target ++ timerEvents s target) none := rfl

theorem events_le (s : St) (target : Nat) : ∀ x ∈ childEvents s target ++ timerEvents s target, x ≤ target := by
  intro x hx
  rcases List.mem_append.1 hx with hx | hx
  · unfold childEvents at hx
    (repeat' split at hx) <;> simp at hx
    omega
  · unfold timerEvents at hx
    (repeat' split at hx) <;> simp at hx
    omega

theorem nextEvent_some {s : St} {target t : Nat} (h : nextEvent s target = some t) :
    ∀ tm, s.timer = some tm → s.now < tm.until_ → t ≤ tm.until_ := by
  intro tm htm hlt
  rw [nextEvent_eq] at h
  obtain ⟨hmin, hmem⟩ := (minFold_none _).2 t h
  by_cases hle : tm.until_ ≤ target
  · apply hmin
    apply List.mem_append_right
    simp [timerEvents, htm, hlt, hle]
  · have := events_le s target t hmem
    omega

theorem nextEvent_none {s : St} {target : Nat} (h : nextEvent s target = none) :
    ∀ tm, s.timer = some tm → s.now < tm.until_ → target ≤ tm.until_ := by
  intro tm htm hlt
  rw [nextEvent_eq] at h
  have hnil := (minFold_none _).1 h
  by_cases hle : tm.until_ ≤ target
  · have : tm.until_ ∈ childEvents s target ++ timerEvents s target := by
      apply List.mem_append_right
      simp [timerEvents, htm, hlt, hle]
    rw [hnil] at this; cases this
  · omega

/-- `SendOk p c`: what a script may send at priority `p`; only `sendOne` sees it, `OpOkFor2 SendOk` lifts it to operations.
    `tick`: `advanceAll` lets time pass only while the task is idle (no turn enabled), and never beyond the deadline of an
    armed timer. -/
structure SimInv3 (I : Sim → Prop) (SendOk : Prio → Ctl → Prop) : Prop where
  turns : ∀ x, I x → ∀ s' ∈ turns x.st, I { x with st := s' }
  park : ∀ x, I x → I { x with st := park x.st }
  drain : ∀ x, I x → I { x with st := drainPolls x.st }
  tick : ∀ x t, I x → Jm.turns x.st = [] → (∀ tm, x.st.timer = some tm → x.st.now < tm.until_ → t ≤ tm.until_) →
    I { x with st := { x.st with now := t } }
  close : ∀ x, I x → I { x with st := { x.st with closed := true } }
  cancel : ∀ x aw, I x → I (cancelSend x aw)
  sendOne : ∀ x p c, SendOk p c → I x → I (sendOne x p c)
  finish : ∀ x aw, I x → I (finishSend x aw)
  clone : ∀ x f, I x → I (addWaiter x f)

def OpOkFor2 (SendOk : Prio → Ctl → Prop) : Op → Prop
  | .send p cs _ => ∀ c ∈ cs, SendOk p c
  | .inject p cs _ => ∀ c ∈ cs, SendOk p c
  | _ => True

section
variable {I : Sim → Prop} {SendOk : Prio → Ctl → Prop}

theorem SimInv3.settleAll (H : SimInv3 I SendOk) (fuel : Nat) {x : Sim} (h : I x) :
    ∀ s ∈ settleAll fuel x.st, I { x with st := s } :=
  settleAll_ind I (fun x s' h hs => H.turns x h s' hs) H.park H.drain fuel h

theorem SimInv3.advanceAll (H : SimInv3 I SendOk) (fuel target : Nat) {x : Sim} (h : I x) :
    ∀ s ∈ advanceAll fuel target x.st, I { x with st := s } := by
  induction fuel generalizing x with
  | zero => intro s hs; simp [Jm.advanceAll] at hs; subst hs; exact h
  | succ n ih =>
    intro s hs
    unfold Jm.advanceAll at hs
    obtain ⟨y, hy, hsy⟩ := List.mem_flatMap.mp hs
    have hyi := H.settleAll 200 h y hy
    by_cases hidle : (!(Jm.turns y).isEmpty) = true
    · simp only [hidle, if_true, List.mem_singleton] at hsy; subst hsy; exact hyi
    simp only [hidle, Bool.false_eq_true, if_false] at hsy
    have hnil : Jm.turns y = [] := by
      cases ht : Jm.turns y with
      | nil => rfl
      | cons a l => simp [ht] at hidle
    split at hsy
    · rename_i t ht
      exact ih (x := { x with st := { y with now := t } }) (H.tick { x with st := y } t hyi hnil (nextEvent_some ht)) s hsy
    · rename_i hnone
      exact H.settleAll 200 (x := { x with st := { y with now := target } })
        (H.tick { x with st := y } target hyi hnil (nextEvent_none hnone)) s hsy

theorem SimInv3.doSend (H : SimInv3 I SendOk) {x : Sim} (p cs aw) (hs : ∀ c ∈ cs, SendOk p c) (h : I x) :
    I (doSend x p cs aw) :=
  doSend_ind I p cs aw hs (fun x => H.cancel x aw) (fun x c => H.sendOne x p c) (fun x => H.finish x aw) h

theorem SimInv3.stepOp (H : SimInv3 I SendOk) {x : Sim} (o : Op) (ho : OpOkFor2 SendOk o) (h : I x) :
    ∀ y ∈ stepOp x o, I y := by
  intro y hy
  cases o with
  | send p cs aw => simp only [Jm.stepOp, List.mem_singleton] at hy; subst hy; exact H.doSend _ _ _ ho h
  | settle =>
    simp only [Jm.stepOp, List.mem_map] at hy
    obtain ⟨st, hst, rfl⟩ := hy
    exact H.settleAll 200 h st hst
  | advance ms =>
    simp only [Jm.stepOp, List.mem_map] at hy
    obtain ⟨st, hst, rfl⟩ := hy
    exact H.advanceAll 64 _ h st hst
  | dropHandles =>
    simp only [Jm.stepOp, List.mem_singleton] at hy; subst hy
    exact H.close _ h
  | inject p cs aw =>
    simp only [Jm.stepOp] at hy
    exact injectAll_ind I p cs aw (fun z s' hz hs' => H.turns z hz s' hs') (fun z hz => H.doSend p cs aw ho hz) 50 h y hy
  | clone w =>
    simp only [Jm.stepOp, List.mem_singleton] at hy; subst hy
    unfold cloneWaiter
    split
    · exact H.clone _ _ h
    · exact H.cancel x true h

theorem SimInv3.runOps (H : SimInv3 I SendOk) (ops : List Op) (hok : ∀ o ∈ ops, OpOkFor2 SendOk o) {x : Sim} (h : I x) :
    ∀ y ∈ runOps x ops, I y := by
  induction ops generalizing x with
  | nil => intro y hy; simp [Jm.runOps] at hy; subst hy; exact h
  | cons o os ih =>
    intro y hy
    simp only [Jm.runOps] at hy
    obtain ⟨z, hz, hyz⟩ := List.mem_flatMap.mp hy
    exact ih (fun o' ho' => hok o' (List.mem_cons_of_mem _ ho'))
      (H.stepOp o (hok o List.mem_cons_self) h z hz) y hyz

/-- Besides task turns, sends and the passage of time the simulator only does waiter bookkeeping and writes `parked`,
    `closed` and a new waiter record. -/
theorem simInv3_ofView {V} (v : St → V) {J : St → Prop} {SendOk : Prio → Ctl → Prop} (hJ : ∀ {t s : St}, v t = v s → J s → J t)
    (hturns : ∀ s, J s → ∀ s' ∈ turns s, J s')
    (htick : ∀ s t, J s → turns s = [] → (∀ tm, s.timer = some tm → s.now < tm.until_ → t ≤ tm.until_) → J { s with now := t })
    (henq : ∀ s p m, SendOk p m.ctl → J s → J (enqueue s p m))
    (hw : ∀ s t, v (s.withWait t) = v s := by intros; rfl)
    (hu : ∀ (s : St) p c w, v { s with parked := p, closed := c, waiters := w } = v s := by intros; rfl) :
    SimInv3 (fun x => J x.st) SendOk := by
  have new : ∀ (s : St) w f, J s → J (pollWaiter { s with waiters := s.waiters ++ [{ id := w, done := f }] } w) := fun s w f =>
    hJ (((waitStep_pollWaiter _ w).keep hw).trans (hu s _ _ (s.waiters ++ [{ id := w, done := f }])))
  exact {
    turns := fun x => hturns x.st
    park := fun x h => by show J (Jm.park x.st); unfold Jm.park; split; exact hJ (hu _ true _ _) h; exact h
    drain := fun x => hJ ((waitStep_drainPolls _).keep hw)
    tick := fun x => htick x.st
    close := fun x => hJ (hu _ _ true _)
    cancel := fun x aw h => by unfold cancelSend; split; exact hJ ((waitStep_emit _ _).keep hw) h; exact h
    sendOne := fun x p c hc h => henq x.st p ⟨c, x.nextFlag⟩ hc h
    finish := fun x aw h => by unfold finishSend; simp only []; split; exact new _ _ _ h; exact h
    clone := fun x f => new _ _ _ }

structure SimInv2 (I : Sim → Prop) (SendOk : Prio → Ctl → Prop) : Prop where
  turns : ∀ x, I x → ∀ s' ∈ turns x.st, I { x with st := s' }
  park : ∀ x, I x → I { x with st := park x.st }
  drain : ∀ x, I x → I { x with st := drainPolls x.st }
  now : ∀ x t, I x → I { x with st := { x.st with now := t } }
  close : ∀ x, I x → I { x with st := { x.st with closed := true } }
  cancel : ∀ x aw, I x → I (cancelSend x aw)
  sendOne : ∀ x p c, SendOk p c → I x → I (sendOne x p c)
  finish : ∀ x aw, I x → I (finishSend x aw)
  clone : ∀ x f, I x → I (addWaiter x f)

theorem SimInv2.toInv3 (H : SimInv2 I SendOk) : SimInv3 I SendOk :=
  ⟨H.turns, H.park, H.drain, fun x t h _ _ => H.now x t h, H.close, H.cancel, H.sendOne, H.finish, H.clone⟩

theorem SimInv2.settleAll (H : SimInv2 I SendOk) (fuel : Nat) {x : Sim} (h : I x) :
    ∀ s ∈ settleAll fuel x.st, I { x with st := s } :=
  H.toInv3.settleAll fuel h

theorem SimInv2.advanceAll (H : SimInv2 I SendOk) (fuel target : Nat) {x : Sim} (h : I x) :
    ∀ s ∈ advanceAll fuel target x.st, I { x with st := s } :=
  H.toInv3.advanceAll fuel target h

theorem SimInv2.doSend (H : SimInv2 I SendOk) {x : Sim} (p cs aw) (hs : ∀ c ∈ cs, SendOk p c) (h : I x) :
    I (doSend x p cs aw) :=
  H.toInv3.doSend p cs aw hs h

theorem SimInv2.stepOp (H : SimInv2 I SendOk) {x : Sim} (o : Op) (ho : OpOkFor2 SendOk o) (h : I x) :
    ∀ y ∈ stepOp x o, I y :=
  H.toInv3.stepOp o ho h

theorem SimInv2.runOps (H : SimInv2 I SendOk) (ops : List Op) (hok : ∀ o ∈ ops, OpOkFor2 SendOk o) {x : Sim} (h : I x) :
    ∀ y ∈ runOps x ops, I y :=
  H.toInv3.runOps ops hok h

end

structure SimInv (I : St → Prop) (SendOk : Prio → Ctl → Prop) : Prop where
  turns : ∀ s, I s → ∀ s' ∈ turns s, I s'
  park : ∀ s, I s → I (park s)
  drain : ∀ s, I s → I (drainPolls s)
  now : ∀ s t, I s → I { s with now := t }
  enqueue : ∀ s p m, SendOk p m.ctl → I s → I (enqueue s p m)
  emit : ∀ s o, I s → I (s.emit o)
  newWaiter : ∀ s w f, I s → I (pollWaiter { s with waiters := s.waiters ++ [{ id := w, done := f }] } w)
  close : ∀ s, I s → I { s with closed := true }

def OpOkFor (SendOk : Prio → Ctl → Prop) : Op → Prop
  | .send p cs _ => ∀ c ∈ cs, SendOk p c
  | .inject p cs _ => ∀ c ∈ cs, SendOk p c
  | _ => True

variable {I : St → Prop} {SendOk : Prio → Ctl → Prop}

/-- As `SimInv`, except that only the observation the simulator itself logs outside a turn is asked for: the ticket of a
    cancelled send. An invariant that reads the log of process-visible effects survives that one and no other. -/
theorem simInv2_ofSt (hturns : ∀ s, I s → ∀ s' ∈ turns s, I s') (hpark : ∀ s, I s → I (park s)) (hdrain : ∀ s, I s → I (drainPolls s))
    (hnow : ∀ s t, I s → I { s with now := t }) (henq : ∀ s p m, SendOk p m.ctl → I s → I (enqueue s p m))
    (hticket : ∀ s w, I s → I (s.emit (.ticket w)))
    (hnew : ∀ s w f, I s → I (pollWaiter { s with waiters := s.waiters ++ [{ id := w, done := f }] } w))
    (hclose : ∀ s, I s → I { s with closed := true }) : SimInv2 (fun x => I x.st) SendOk where
  turns := fun x => hturns x.st
  park := fun x => hpark x.st
  drain := fun x => hdrain x.st
  now := fun x => hnow x.st
  close := fun x => hclose x.st
  cancel := fun x aw h => by unfold cancelSend; split; exact hticket _ _ h; exact h
  sendOne := fun x p c hc h => henq x.st p ⟨c, x.nextFlag⟩ hc h
  finish := fun x aw h => by unfold finishSend; simp only []; split; exact hnew _ _ _ h; exact h
  clone := fun x f h => hnew _ _ _ h

theorem SimInv.toInv2 (H : SimInv I SendOk) : SimInv2 (fun x => I x.st) SendOk :=
  simInv2_ofSt H.turns H.park H.drain H.now H.enqueue (fun s _ => H.emit s _) H.newWaiter H.close

theorem opOkFor_true (o : Op) : OpOkFor (fun _ _ => True) o := by
  cases o <;> simp [OpOkFor]

theorem OpOkFor.two {o : Op} (h : OpOkFor SendOk o) : OpOkFor2 SendOk o := by
  cases o <;> exact h

theorem SimInv.settleAll (H : SimInv I SendOk) (fuel : Nat) {s : St} (h : I s) : ∀ x ∈ settleAll fuel s, I x :=
  H.toInv2.settleAll fuel (x := { st := s }) h

theorem SimInv.advanceAll (H : SimInv I SendOk) (fuel target : Nat) {s : St} (h : I s) :
    ∀ x ∈ advanceAll fuel target s, I x :=
  H.toInv2.advanceAll fuel target (x := { st := s }) h

theorem SimInv.doSend (H : SimInv I SendOk) {x : Sim} (p cs aw) (hs : ∀ c ∈ cs, SendOk p c) (h : I x.st) :
    I (doSend x p cs aw).st :=
  H.toInv2.doSend p cs aw hs h

theorem SimInv.stepOp (H : SimInv I SendOk) {x : Sim} (o : Op) (ho : OpOkFor SendOk o) (h : I x.st) :
    ∀ y ∈ stepOp x o, I y.st :=
  H.toInv2.stepOp o ho.two h

theorem SimInv.runOps (H : SimInv I SendOk) (ops : List Op) (hok : ∀ o ∈ ops, OpOkFor SendOk o) {x : Sim} (h : I x.st) :
    ∀ y ∈ runOps x ops, I y.st :=
  H.toInv2.runOps ops (fun o ho => (hok o ho).two) h

theorem SimInv.ofView {V} (v : St → V) {J : St → Prop} (hJ : ∀ {t s : St}, v t = v s → J s → J t)
    (hturns : ∀ s, J s → ∀ s' ∈ Jm.turns s, J s') (henq : ∀ s p m, SendOk p m.ctl → J s → J (Jm.enqueue s p m))
    (hw : ∀ s t, v (s.withWait t) = v s := by intros; rfl)
    (hu : ∀ (s : St) p c n w, v { s with parked := p, closed := c, now := n, waiters := w } = v s := by intros; rfl) :
    SimInv J SendOk where
  turns := hturns
  park := fun s h => by unfold Jm.park; split; exact hJ (hu s true _ _ _) h; exact h
  drain := fun s h => hJ ((waitStep_drainPolls s).keep hw) h
  now := fun s t h => hJ (hu s _ _ t _) h
  enqueue := henq
  emit := fun s o h => hJ ((waitStep_emit s o).keep hw) h
  newWaiter := fun s w f h => hJ (((waitStep_pollWaiter _ w).keep hw).trans (hu s _ _ _ (s.waiters ++ [{ id := w, done := f }]))) h
  close := fun s h => hJ (hu s _ true _ _) h

theorem SimInv.and {J : St → Prop} {Ok1 Ok2 : Prio → Ctl → Prop} (H1 : SimInv I Ok1) (H2 : SimInv J Ok2)
    (hok : ∀ p c, SendOk p c → Ok1 p c ∧ Ok2 p c) : SimInv (fun s => I s ∧ J s) SendOk where
  turns := fun s h s' hs' => ⟨H1.turns s h.1 s' hs', H2.turns s h.2 s' hs'⟩
  park := fun s h => ⟨H1.park s h.1, H2.park s h.2⟩
  drain := fun s h => ⟨H1.drain s h.1, H2.drain s h.2⟩
  now := fun s t h => ⟨H1.now s t h.1, H2.now s t h.2⟩
  enqueue := fun s p m hm h => ⟨H1.enqueue s p m (hok p m.ctl hm).1 h.1, H2.enqueue s p m (hok p m.ctl hm).2 h.2⟩
  emit := fun s o h => ⟨H1.emit s o h.1, H2.emit s o h.2⟩
  newWaiter := fun s w f h => ⟨H1.newWaiter s w f h.1, H2.newWaiter s w f h.2⟩
  close := fun s h => ⟨H1.close s h.1, H2.close s h.2⟩

end Jm
