import Wx.Job.SimInduct
/-! C04 on the full model: at most one un-reaped child, and it is the one `cs` holds. -/
namespace Jm

/-- ids of children that were spawned and are not yet reaped -/
def St.live (s : St) : List ChildId := (s.children.filter (fun ch => !ch.reaped)).map (·.id)

/-- the claim, and what keeps it: ids below `spawnCount` make the next child's id fresh, distinct ids make `setChild` (a
    map by id) change one record (`eq_of_id_eq`) -/
def Inv (s : St) : Prop :=
  (s.live = match s.cs with | .running c => [c] | _ => []) ∧
  (∀ ch ∈ s.children, ch.id < s.spawnCount) ∧
  (s.children.map (·.id)).Nodup

def NotRunning (s : St) : Prop := ∀ c, s.cs ≠ .running c

/-! `Inv` reads `cs`, `children`, `spawnCount`: the flag machinery does not touch it, the process side does -/

theorem Inv.congr {s t : St} (h : Inv s) (h1 : t.cs = s.cs := by rfl) (h2 : t.children = s.children := by rfl)
    (h3 : t.spawnCount = s.spawnCount := by rfl) : Inv t := by
  unfold Inv St.live at *; rw [h1, h2, h3]; exact h

@[simp] theorem emit_cs (s : St) (o) : (s.emit o).cs = s.cs := rfl
@[simp] theorem emit_children (s : St) (o) : (s.emit o).children = s.children := rfl
@[simp] theorem emit_spawnCount (s : St) (o) : (s.emit o).spawnCount = s.spawnCount := rfl

theorem FlagStep.inv {s t : St} (h : FlagStep s t) (hi : Inv s) : Inv t :=
  hi.congr h.keep h.keep h.keep

theorem FlagStep.cs {s t : St} (h : FlagStep s t) : t.cs = s.cs := h.keep

theorem inv_emit {s : St} (o) (h : Inv s) : Inv (s.emit o) := h.congr
theorem inv_raise {s : St} (f) (h : Inv s) : Inv (s.raise f) := (flagStep_raise s f).inv h
theorem inv_errHandler {s : St} (h : Inv s) : Inv s.errHandler := (waitStep_errHandler s).flag.inv h
theorem inv_endFlags {s : St} (h : Inv s) : Inv s.endFlags :=
  ((flagStep_raiseAll s _).inv h).congr
theorem endFlags_cs (s : St) : s.endFlags.cs = s.cs := (flagStep_raiseAll s s.onEnd).cs

theorem notRunning_of_cs {s t : St} (h : t.cs = s.cs) (hn : NotRunning s) : NotRunning t :=
  fun c => by rw [h]; exact hn c

theorem notRunning_iff {s : St} : NotRunning s ↔ (s.cs = .pending ∨ ∃ st, s.cs = .finished st) := by
  unfold NotRunning
  cases s.cs <;> simp

theorem live_nil {s : St} (h : Inv s) (hn : NotRunning s) : s.live = [] := by
  have := h.1
  rcases notRunning_iff.1 hn with hc | ⟨st, hc⟩ <;> rw [hc] at this <;> exact this

theorem Inv.live {s : St} (h : Inv s) :
    s.live.length ≤ 1 ∧ (∀ c, s.cs = .running c → s.live = [c]) ∧ ((∀ c, s.cs ≠ .running c) → s.live = []) := by
  refine ⟨?_, fun c hc => by rw [h.1, hc], live_nil h⟩
  rw [h.1]; cases s.cs <;> simp

def liveIds (l : List Child) : List ChildId := (l.filter (fun ch => !ch.reaped)).map (·.id)
def upd (l : List Child) (ch : Child) : List Child := l.map (fun x => if x.id == ch.id then ch else x)

theorem liveIds_cons (a : Child) (l : List Child) :
    liveIds (a :: l) = if a.reaped then liveIds l else a.id :: liveIds l := by
  unfold liveIds; cases h : a.reaped <;> simp [h]

theorem upd_cons (a : Child) (l : List Child) (ch : Child) :
    upd (a :: l) ch = (if a.id == ch.id then ch else a) :: upd l ch := rfl

theorem upd_ids (l : List Child) (ch : Child) : (upd l ch).map (·.id) = l.map (·.id) := by
  induction l with
  | nil => rfl
  | cons a l ih =>
    rw [upd_cons, List.map_cons, List.map_cons, ih]
    by_cases h : a.id = ch.id <;> simp [h]

theorem liveIds_upd_same (l : List Child) (ch : Child) (h : ∀ x ∈ l, x.id = ch.id → x.reaped = ch.reaped) :
    liveIds (upd l ch) = liveIds l := by
  induction l with
  | nil => rfl
  | cons a l ih =>
    rw [upd_cons, liveIds_cons, liveIds_cons, ih fun x hx => h x (List.mem_cons_of_mem _ hx)]
    by_cases ha : a.id = ch.id
    · simp only [ha, beq_self_eq_true, if_true, h a List.mem_cons_self ha]
    · simp only [beq_iff_eq, ha, if_false]

theorem liveIds_upd_reaped (l : List Child) (ch : Child) (hr : ch.reaped = true) :
    liveIds (upd l ch) = (liveIds l).filter (· != ch.id) := by
  induction l with
  | nil => rfl
  | cons a l ih =>
    rw [upd_cons, liveIds_cons, liveIds_cons, ih]
    by_cases ha : a.id = ch.id
    · cases har : a.reaped <;> simp [ha, hr]
    · cases har : a.reaped <;> simp [ha, har]


theorem child?_mem {s : St} {c : ChildId} {ch : Child} (h : s.child? c = some ch) : ch ∈ s.children ∧ ch.id = c := by
  unfold St.child? at h
  exact ⟨List.mem_of_find?_eq_some h, by simpa using List.find?_some h⟩

theorem nodup_map_inj {α β} (f : α → β) (l : List α) (h : (l.map f).Nodup) : ∀ x ∈ l, ∀ y ∈ l, f x = f y → x = y := by
  have hp : l.Pairwise (fun a b => f a = f b → a = b) := (List.pairwise_map.1 h).imp fun hne he => absurd he hne
  exact hp.forall_of_forall_of_flip (fun _ _ _ => rfl) (hp.imp fun h he => (h he.symm).symm)

theorem eq_of_id_eq {s : St} (h : Inv s) {x y : Child} (hx : x ∈ s.children) (hy : y ∈ s.children)
    (hid : x.id = y.id) : x = y :=
  nodup_map_inj (·.id) _ h.2.2 x hx y hy hid

theorem child_of_inv {s : St} (h : Inv s) {c} (hc : s.cs = .running c) : ∃ ch, s.child? c = some ch := by
  have : c ∈ s.live := by rw [h.1, hc]; exact List.mem_singleton_self c
  obtain ⟨ch, hm, hid⟩ := List.mem_map.1 this
  cases hch : s.child? c with
  | some x => exact ⟨x, rfl⟩
  | none => exact absurd (by simpa using hid) (List.find?_eq_none.1 hch ch (List.mem_filter.1 hm).1)

theorem setChild_ids_lt {s : St} (ch : Child) (h : ∀ x ∈ s.children, x.id < s.spawnCount) :
    ∀ x ∈ upd s.children ch, x.id < s.spawnCount := by
  intro x hx
  have : x.id ∈ (upd s.children ch).map (·.id) := List.mem_map_of_mem hx
  rw [upd_ids] at this
  obtain ⟨y, hy, hyx⟩ := List.mem_map.mp this
  exact hyx ▸ h y hy

theorem inv_setChild_same {s : St} (ch : Child) (h : Inv s)
    (hsame : ∀ x ∈ s.children, x.id = ch.id → x.reaped = ch.reaped) : Inv (s.setChild ch) :=
  ⟨(liveIds_upd_same _ _ hsame).trans h.1, setChild_ids_lt ch h.2.1, (upd_ids _ _).symm ▸ h.2.2⟩

theorem inv_reaped {s : St} {c} (ch : Child) (st) (h : Inv s) (hc : s.cs = .running c) (hid : ch.id = c)
    (hr : ch.reaped = true) : Inv { s.setChild ch with cs := .finished st } := by
  refine ⟨?_, setChild_ids_lt ch h.2.1, (upd_ids _ _).symm ▸ h.2.2⟩
  have h1 : liveIds s.children = [c] := by have := h.1; rwa [hc] at this
  show liveIds (upd s.children ch) = []
  rw [liveIds_upd_reaped _ _ hr, h1, hid]
  simp

theorem inv_signalChild {s : St} (c sig) (h : Inv s) : Inv (s.signalChild c sig) := by
  have he : Inv (s.emit (.signal c sig)) := inv_emit _ h
  unfold St.signalChild
  cases hch : (s.emit (.signal c sig)).child? c with
  | none => simpa [hch] using he
  | some ch =>
    simp only [hch]
    obtain ⟨hm, hid⟩ := child?_mem hch
    split
    · refine inv_setChild_same _ he fun x hx hxid => ?_
      rw [eq_of_id_eq he hx hm hxid]
    · exact he

theorem inv_killReap {s : St} {c} (h : Inv s) (hc : s.cs = .running c) :
    Inv (s.killReap c) ∧ NotRunning (s.killReap c) := by
  obtain ⟨ch, hch⟩ := child_of_inv h hc
  have hch' : (s.emit (.kill c)).child? c = some ch := hch
  unfold St.killReap
  simp only [hch']
  exact ⟨inv_emit _ (inv_reaped _ 9 (inv_emit _ h) hc (child?_mem hch).2 rfl), fun c' => by simp [St.emit]⟩

theorem inv_reap {s : St} {c} (h : Inv s) (hc : s.cs = .running c) : Inv (s.reap c) ∧ NotRunning (s.reap c) := by
  obtain ⟨ch, hch⟩ := child_of_inv h hc
  unfold St.reap
  simp only [hch]
  exact ⟨inv_emit _ ((inv_reaped { ch with reaped := true } ch.status h hc (child?_mem hch).2 rfl).congr),
    fun c' => by simp [St.emit]⟩

theorem inv_reset {s : St} (h : Inv s) (hn : NotRunning s) : Inv s.reset ∧ NotRunning s.reset := by
  unfold St.reset
  rcases notRunning_iff.1 hn with hcs | ⟨st, hcs⟩ <;> simp only [hcs] <;>
    exact ⟨⟨by simpa [St.live, hcs] using h.1, h.2⟩, fun c => by simp⟩

theorem liveIds_append (l1 l2 : List Child) : liveIds (l1 ++ l2) = liveIds l1 ++ liveIds l2 := by
  simp [liveIds, List.filter_append]

theorem inv_spawn {s : St} (h : Inv s) (hn : NotRunning s) : Inv s.spawn.1 := by
  unfold St.spawn
  split
  · next c hcs => exact absurd hcs (hn c)
  · simp only []
    generalize hs' : (if s.hookSet = true then s.emit Obs.hook else s) = s'
    have hinv' : Inv s' := by subst hs'; split; exact inv_emit _ h; exact h
    have hlive0 : s'.live = [] := live_nil hinv' (notRunning_of_cs (by subst hs'; split <;> rfl) hn)
    obtain ⟨h1, h2, h3⟩ := hinv'
    have h2' : ∀ ch ∈ s'.children, ch.id < s'.spawnCount + 1 := fun ch hch => Nat.lt_succ_of_lt (h2 ch hch)
    split
    · exact inv_emit _ ⟨h1, h2', h3⟩
    · refine inv_emit _ ⟨?_, ?_, ?_⟩
      · show liveIds (s'.children ++ [_]) = [s'.spawnCount]
        rw [liveIds_append, show liveIds s'.children = [] from hlive0]
        simp [liveIds]
      · intro ch hch
        rcases List.mem_append.mp hch with hm | hm
        · exact h2' ch hm
        · simp at hm; subst hm; exact Nat.lt_succ_self _
      · show ((s'.children ++ [_]).map (fun (x : Child) => x.id)).Nodup
        rw [List.map_append, List.nodup_append]
        refine ⟨h3, by simp, ?_⟩
        intro a ha b hb
        simp at hb; subst hb
        obtain ⟨y, hy, rfl⟩ := List.mem_map.mp ha
        exact Nat.ne_of_lt (h2 y hy)

theorem spawn_ok_running {s : St} (hn : NotRunning s) : s.spawn.2 = true → ∃ c, s.spawn.1.cs = .running c := by
  unfold St.spawn
  cases hcs : s.cs with
  | running c => exact absurd hcs (hn c)
  | pending | finished st =>
    all_goals
      simp only []
      cases hb : behAt (if s.hookSet = true then s.emit Obs.hook else s) <;> simp [St.emit]

theorem inv_spawnFin {s : St} (f) (h : Inv s) (hn : NotRunning s) : Inv (s.spawnFin f) := by
  unfold St.spawnFin
  split
  · exact inv_raise _ (inv_spawn h hn)
  · exact inv_raise _ (inv_errHandler (inv_spawn h hn))

theorem inv_handle {s : St} (m : Msg) (h : Inv s) : Inv (handle s m) := by
  have respawn : ∀ {t : St}, Inv t → NotRunning t → Inv (t.reset.spawnFin m.done) := fun ht hn =>
    inv_spawnFin _ (inv_reset ht hn).1 (inv_reset ht hn).2
  apply handle_cases s m
  case noop => exact fun _ => inv_raise _ h
  case start => exact fun _ hn => respawn h hn
  case stop => exact fun c _ hc => inv_raise _ (inv_endFlags (inv_killReap h hc).1)
  case gracefulStop => exact fun c sig _ _ _ => (inv_signalChild c sig h).congr
  case tryRestart =>
    intro c _ hc
    obtain ⟨hr, hnr⟩ := inv_reset (inv_killReap h hc).1 (inv_killReap h hc).2
    exact inv_spawnFin _ (inv_endFlags hr) (notRunning_of_cs (endFlags_cs _) hnr)
  case tryGracefulRestart => exact fun c sig _ _ _ => (inv_signalChild c sig h).congr
  case continueTGR =>
    intro _ s0 h0
    have : Inv s0 ∧ NotRunning s0 := by
      rcases h0 with ⟨hn⟩ | ⟨c, hc⟩
      · exact ⟨h, hn⟩
      · exact ⟨inv_endFlags (inv_killReap h hc).1, notRunning_of_cs (endFlags_cs _) (inv_killReap h hc).2⟩
    split
    · exact respawn (this.1.congr) (notRunning_of_cs (s := s0) rfl this.2)
    · exact respawn this.1 this.2
  case signal => exact fun c sig _ _ => inv_raise _ (inv_signalChild c sig h)
  case delete => exact fun _ => inv_raise _ (inv_emit _ ((inv_raise _ h).congr))
  case nextEnding => exact fun _ _ => h.congr
  case func => exact fun _ _ => inv_raise _ (inv_emit _ h)
  case hook => exact fun _ _ => inv_raise _ (h.congr)
  case err => exact fun _ _ => inv_raise _ (h.congr)

theorem inv_continueRestart {s : St} (h : Inv s) (hn : NotRunning s) : Inv s.continueRestart := by
  obtain ⟨hr, hnr⟩ := inv_reset (h.congr (t := { s with onEndRestart := none })) (notRunning_of_cs rfl hn)
  exact continueRestart_cases s (fun _ => h) (fun f _ => inv_spawnFin f hr hnr) fun _ _ _ => inv_errHandler (inv_spawn hr hnr)

theorem inv_waitBranch {s : St} {c} (h : Inv s) (hc : s.cs = .running c) : Inv (waitBranch s c) := by
  unfold waitBranch
  obtain ⟨hr, hnr⟩ := inv_reap h hc
  have hf := flagStep_raiseAll (s.reap c) s.stopFlags
  exact inv_continueRestart (inv_endFlags (hf.inv hr)) (notRunning_of_cs ((endFlags_cs _).trans hf.cs) hnr)

theorem inv_take {s s1 : St} {src m} (h : Inv s) (ht : Take s src m s1) : Inv s1 := by
  cases ht <;> exact h.congr

theorem inv_turns {s : St} (h : Inv s) : ∀ s' ∈ turns s, Inv s' := by
  refine turns_cases s ?wait ?recv ?closed
  case wait => exact fun c hrun => inv_waitBranch (h.congr) (waitReady_running hrun)
  case recv => exact fun _ m s1 _ ht => inv_handle _ ((inv_take h ht).congr)
  case closed =>
    intro _
    unfold St.closedEnd
    split
    · exact inv_raise _ (inv_emit _ (h.congr))
    · exact inv_emit _ (h.congr)

theorem c04_simInv : SimInv Inv (fun _ _ => True) :=
  .ofView (fun s => (s.cs, s.children, s.spawnCount))
    (fun h hi => by simp only [Prod.mk.injEq] at h; exact hi.congr h.1 h.2.1 h.2.2)
    (fun _ h => inv_turns h)
    (fun s p _ _ h => by cases p <;> exact h.congr)

theorem inv_init (cfg : Fixes) (behs : List Beh) : Inv { cfg := cfg, behs := behs, hookSet := true, parked := true } :=
  ⟨rfl, by simp, by simp⟩

/-- **C04** — for every fix configuration, every child-behaviour script, every operation script and
    every resolution of every race: at most one child is spawned-and-unreaped, and it is the one the
    task holds. -/
theorem c04 (cfg : Fixes) (behs : List Beh) (ops : List Op) :
    ∀ y ∈ runOps { st := { cfg := cfg, behs := behs, hookSet := true, parked := true } } ops, Inv y.st :=
  c04_simInv.runOps ops (fun o _ => opOkFor_true o) (inv_init cfg behs)

/-- non-vacuity: a concrete reachable state with a live child -/
example : (runOps { st := { behs := [.ignores], hookSet := true, parked := true } }
    [.send .normal [.start] true, .settle]).map (fun x => x.st.live) = [[0]] := by decide

#print axioms c04
end Jm
