import Wx.Job.Sim
/-! Which fields each operation of the job task can write. Four footprints cover the model: waiter bookkeeping
    (registering, polling, resolving), the same plus `raised` (raising a flag), the process side (children, command
    state), and everything the body of a `select!` arm (`handle`, `waitBranch`) may write. A view that reads none of an
    operation's fields is unchanged by it (`keep`). What a control does beyond that is one of thirteen things
    (`handle_cases`); a turn is the wait branch, `recv` (`Take`) followed by `handle`, or the end of the task (`turns_cases`). -/
namespace Jm

/-- `s`, with the fields that waiter bookkeeping writes taken from `t` -/
def St.withWait (s t : St) : St :=
  { s with slots := t.slots, waiters := t.waiters, pendingPolls := t.pendingPolls, log := t.log }

/-- `s`, with the fields that raising a flag writes taken from `t` -/
def St.withFlags (s t : St) : St :=
  { s with raised := t.raised, slots := t.slots, waiters := t.waiters, pendingPolls := t.pendingPolls, log := t.log }

/-- `s`, with the fields the process side writes taken from `t` -/
def St.withProc (s t : St) : St :=
  { s with cs := t.cs, prev := t.prev, children := t.children, spawnCount := t.spawnCount, log := t.log }

/-- `s`, with every field that `handle` or the wait branch can write taken from `t` -/
def St.withTask (s t : St) : St :=
  { s with cs := t.cs, prev := t.prev, timer := t.timer, onEnd := t.onEnd, onEndRestart := t.onEndRestart,
           hookSet := t.hookSet, errSet := t.errSet, alive := t.alive, raised := t.raised, slots := t.slots,
           waiters := t.waiters, pendingPolls := t.pendingPolls, children := t.children, spawnCount := t.spawnCount, log := t.log }

/-- `t` differs from `s` at most in the fields that waiter bookkeeping writes -/
def WaitStep (s t : St) : Prop := t = s.withWait t
def FlagStep (s t : St) : Prop := t = s.withFlags t
def ProcStep (s t : St) : Prop := t = s.withProc t
def TaskStep (s t : St) : Prop := t = s.withTask t

theorem WaitStep.refl (s : St) : WaitStep s s := rfl
theorem FlagStep.refl (s : St) : FlagStep s s := rfl
theorem ProcStep.refl (s : St) : ProcStep s s := rfl
theorem TaskStep.refl (s : St) : TaskStep s s := rfl

theorem WaitStep.trans {s t u : St} (h1 : WaitStep s t) (h2 : WaitStep t u) : WaitStep s u := by
  unfold WaitStep at *; rw [h2, h1]; rfl
theorem FlagStep.trans {s t u : St} (h1 : FlagStep s t) (h2 : FlagStep t u) : FlagStep s u := by
  unfold FlagStep at *; rw [h2, h1]; rfl
theorem ProcStep.trans {s t u : St} (h1 : ProcStep s t) (h2 : ProcStep t u) : ProcStep s u := by
  unfold ProcStep at *; rw [h2, h1]; rfl
theorem TaskStep.trans {s t u : St} (h1 : TaskStep s t) (h2 : TaskStep t u) : TaskStep s u := by
  unfold TaskStep at *; rw [h2, h1]; rfl

theorem WaitStep.flag {s t : St} (h : WaitStep s t) : FlagStep s t := by
  unfold WaitStep FlagStep at *; rw [h]; rfl
theorem FlagStep.task {s t : St} (h : FlagStep s t) : TaskStep s t := by
  unfold FlagStep TaskStep at *; rw [h]; rfl
theorem ProcStep.task {s t : St} (h : ProcStep s t) : TaskStep s t := by
  unfold ProcStep TaskStep at *; rw [h]; rfl

/- `keep`: that the view `π` reads none of the fields the step may write is checked by `rfl`. -/
theorem WaitStep.keep {α} {s t : St} (h : WaitStep s t) {π : St → α} (hπ : ∀ s t, π (s.withWait t) = π s := by intros; rfl) :
    π t = π s := by
  rw [h]; exact hπ s t
theorem FlagStep.keep {α} {s t : St} (h : FlagStep s t) {π : St → α} (hπ : ∀ s t, π (s.withFlags t) = π s := by intros; rfl) :
    π t = π s := by
  rw [h]; exact hπ s t
theorem ProcStep.keep {α} {s t : St} (h : ProcStep s t) {π : St → α} (hπ : ∀ s t, π (s.withProc t) = π s := by intros; rfl) :
    π t = π s := by
  rw [h]; exact hπ s t
theorem TaskStep.keep {α} {s t : St} (h : TaskStep s t) {π : St → α} (hπ : ∀ s t, π (s.withTask t) = π s := by intros; rfl) :
    π t = π s := by
  rw [h]; exact hπ s t

theorem foldl_rel {β} {R : St → St → Prop} (refl : ∀ s, R s s) (trans : ∀ {a b c}, R a b → R b c → R a c)
    {f : St → β → St} (hf : ∀ s b, R s (f s b)) (l : List β) (s : St) : R s (l.foldl f s) := by
  induction l generalizing s with
  | nil => exact refl s
  | cons b l ih => exact trans (hf s b) (ih _)

theorem pollWaiter_rel {R : St → St → Prop} (refl : ∀ s, R s s) (trans : ∀ {a b c}, R a b → R b c → R a c)
    (resolve : ∀ s w, R s (s.resolveWaiter w)) (register : ∀ s f w, R s (s.register f w)) (s : St) (w) :
    R s (pollWaiter s w) := by
  unfold pollWaiter
  split
  · split
    · exact refl s
    · split
      · exact resolve s w
      · simp only []
        split
        · exact trans (register _ _ _) (resolve _ _)
        · exact trans (register _ _ _) (register _ _ _)
  · exact refl s

theorem waitStep_emit (s : St) (o) : WaitStep s (s.emit o) := rfl

theorem waitStep_errHandler (s : St) : WaitStep s s.errHandler := by
  unfold St.errHandler; split <;> rfl

theorem waitStep_resolveWaiter (s : St) (w) : WaitStep s (s.resolveWaiter w) := by
  unfold St.resolveWaiter
  split
  · split <;> rfl
  · rfl

theorem waitStep_register (s : St) (f w) : WaitStep s (s.register f w) := by
  unfold St.register; split <;> rfl

theorem waitStep_pollWaiter (s : St) (w) : WaitStep s (pollWaiter s w) :=
  pollWaiter_rel .refl .trans waitStep_resolveWaiter waitStep_register s w

theorem waitStep_foldl {β} {f : St → β → St} (hf : ∀ s b, WaitStep s (f s b)) (l : List β) (s : St) :
    WaitStep s (l.foldl f s) :=
  foldl_rel .refl .trans hf l s

theorem waitStep_drainPolls (s : St) : WaitStep s (drainPolls s) :=
  WaitStep.trans (t := { s with pendingPolls := [] }) rfl (waitStep_foldl waitStep_pollWaiter _ _)

theorem flagStep_raise (s : St) (f) : FlagStep s (s.raise f) :=
  FlagStep.trans (t := { s with raised := if s.raised.contains f then s.raised else f :: s.raised,
                                slots := s.slots.filter (·.1 != f) }) rfl
    (waitStep_foldl waitStep_resolveWaiter _ _).flag

theorem flagStep_raiseAll (s : St) (fs) : FlagStep s (s.raiseAll fs) :=
  foldl_rel .refl .trans flagStep_raise fs s

theorem endFlags_eq (s : St) : s.endFlags = { s.withFlags s.endFlags with onEnd := [] } :=
  congrArg (fun t : St => { t with onEnd := [] }) (flagStep_raiseAll s s.onEnd)

theorem procStep_errHandler (s : St) : ProcStep s s.errHandler := by
  unfold St.errHandler; split <;> rfl

theorem procStep_signalChild (s : St) (c g) : ProcStep s (s.signalChild c g) := by
  unfold St.signalChild
  simp only []
  split
  · split <;> rfl
  · rfl

theorem procStep_killReap (s : St) (c) : ProcStep s (s.killReap c) := by
  unfold St.killReap; simp only []; split <;> rfl

theorem procStep_reset (s : St) : ProcStep s s.reset := by
  unfold St.reset; split <;> rfl

theorem procStep_spawn (s : St) : ProcStep s s.spawn.1 := by
  unfold St.spawn
  split
  · rfl
  · simp only []
    split
    · split <;> rfl
    · split <;> rfl

theorem reap_eq (s : St) (c) : s.reap c = { s.withProc (s.reap c) with timer := none } := by
  unfold St.reap; simp only []; split <;> rfl

theorem mem_enqueue {s : St} {p : Prio} {m x : Msg} :
    x ∈ (enqueue s p m).normal ++ (enqueue s p m).high ++ (enqueue s p m).urgent ↔ x ∈ s.normal ++ s.high ++ s.urgent ∨ x = m := by
  cases p <;> simp only [enqueue, List.mem_append, List.mem_singleton]
  · rw [or_right_comm (b := x = m), or_right_comm (b := x = m)]
  · rw [← or_assoc, or_right_comm (b := x = m)]
  · rw [← or_assoc]

/-- `recv` returned `m` from `src`, leaving `s1` -/
inductive Take (s : St) : Src → Msg → St → Prop
  | timer (t : Timer) (h : s.timer = some t) :
      Take s .timer ⟨if t.isRestart then .continueTGR else .stop, t.done⟩ { s with timer := none }
  | urgent (m r) (h : s.urgent = m :: r) :
      Take s .urgent m { s with urgent := r, taken := s.taken ++ [(.urgent, m.done)] }
  | high (m r) (h : s.high = m :: r) :
      Take s .high m { s with high := r, taken := s.taken ++ [(.high, m.done)] }
  | normal (m r) (h : s.normal = m :: r) :
      Take s .normal m { s with normal := r, taken := s.taken ++ [(.normal, m.done)], lastNormal := some m.ctl }

theorem take_of_takeFrom {s s1 : St} {src : Src} {m : Msg} (h : takeFrom s src = some (m, s1)) : Take s src m s1 := by
  cases src <;> simp only [takeFrom] at h
  · obtain ⟨t, ht, h⟩ := Option.map_eq_some_iff.1 h
    cases h; exact .timer t ht
  all_goals
    split at h
    · cases h; constructor; assumption
    · cases h

theorem Take.mem_queued {s s1 : St} {src : Src} {m x : Msg} (ht : Take s src m s1) (hs : src ≠ .timer) :
    x ∈ s.normal ++ s.high ++ s.urgent ↔ x ∈ s1.normal ++ s1.high ++ s1.urgent ∨ x = m := by
  cases ht with
  | timer => exact absurd rfl hs
  | urgent m r hq =>
    simp only [hq, List.mem_append, List.mem_cons]
    rw [or_comm (a := x = m), ← or_assoc]
  | high m r hq =>
    simp only [hq, List.mem_append, List.mem_cons]
    rw [or_comm (a := x = m), ← or_assoc, or_right_comm (b := x = m)]
  | normal m r hq =>
    simp only [hq, List.mem_append, List.mem_cons]
    rw [or_comm (a := x = m), or_right_comm (b := x = m), or_right_comm (b := x = m)]

/-- the biased receive (repair F7) is the `try_recv` order -/
theorem recvCandidates_biased {s : St} (hf7 : s.cfg.f7 = true) :
    recvCandidates s = match s.timer with
      | some t => if t.until_ ≤ s.now then [.timer] else if !s.urgent.isEmpty then [.urgent] else if !s.high.isEmpty then [.high] else []
      | none => if !s.urgent.isEmpty then [.urgent] else if !s.high.isEmpty then [.high] else if !s.normal.isEmpty then [.normal] else [] := by
  unfold recvCandidates
  rw [if_pos hf7]
  rfl

theorem recvCandidates_sound {s : St} {src : Src} (h : src ∈ recvCandidates s) :
    (src = .timer → ∃ tm, s.timer = some tm ∧ tm.until_ ≤ s.now) ∧ (src = .normal → s.timer = none) := by
  unfold recvCandidates at h
  -- the bias only clears `parked`: `p` is what is left of it
  have e : ∀ b : Bool, (if b = true then { s with parked := false } else s) = { s with parked := !b && s.parked } :=
    fun b => by cases b <;> rfl
  rw [e] at h
  simp only [] at h
  generalize (!s.cfg.f7 && s.parked) = p at h
  -- every branch is a short list of sources: the ready arms of the final `select!` (`p`), or the first in `try_recv` order
  cases htm : s.timer with
  | none =>
    refine ⟨fun e => ?_, fun _ => rfl⟩
    subst e
    simp only [htm] at h
    cases p
    · simp only [Bool.false_eq_true, if_false] at h
      (repeat' split at h) <;> simp at h
    · simp at h
  | some tm =>
    simp only [htm] at h
    by_cases hle : tm.until_ ≤ s.now
    · exact ⟨fun _ => ⟨tm, rfl, hle⟩, fun e => by subst e; cases p <;> simp [hle] at h⟩
    · refine ⟨fun e => ?_, fun e => ?_⟩ <;> subst e <;> simp only [hle, if_false] at h <;> cases p
      · simp only [Bool.false_eq_true, if_false] at h
        (repeat' split at h) <;> simp at h
      · simp at h
      · simp only [Bool.false_eq_true, if_false] at h
        (repeat' split at h) <;> simp at h
      · simp at h

theorem timer_cand {s : St} (h : Src.timer ∈ recvCandidates s) : ∃ tm, s.timer = some tm ∧ tm.until_ ≤ s.now :=
  (recvCandidates_sound h).1 rfl

theorem normal_cand' {s : St} (h : Src.normal ∈ recvCandidates s) : s.timer = none := (recvCandidates_sound h).2 rfl

theorem mem_waitTurns {s s' : St} (h : s' ∈ waitTurns s) :
    ∃ c, waitReady s = some c ∧ s' = waitBranch { s with parked := false } c := by
  unfold waitTurns at h
  split at h
  · next c hc => exact ⟨c, hc, List.mem_singleton.1 h⟩
  · cases h

theorem waitReady_running {s : St} {c} (h : waitReady s = some c) : s.cs = .running c := by
  unfold waitReady at h
  split at h
  · next c' hcs =>
    have : c' = c := by (repeat' split at h) <;> simp_all
    rw [hcs, this]
  · cases h

theorem mem_recvTurns {s s' : St} (h : s' ∈ recvTurns s) :
    ∃ src m s1, src ∈ recvCandidates s ∧ Take s src m s1 ∧ s' = handle { s1 with parked := false } m := by
  obtain ⟨src, hsrc, h⟩ := List.mem_filterMap.1 h
  split at h
  · next m s1 ht => cases h; exact ⟨src, m, s1, hsrc, take_of_takeFrom ht, rfl⟩
  · cases h

/-- how the task ends once all queues are closed and nothing is running: `else => break` (repair F16), or a panic -/
def St.closedEnd (s : St) : St :=
  if s.cfg.f16 then (({ s with alive := false }).emit .ended).raise 0 else ({ s with alive := false }).emit .panicked

theorem mem_closedOutcome {s s' : St} (h : s' ∈ closedOutcome s) : closedIdle s = true ∧ s' = s.closedEnd := by
  unfold closedOutcome at h
  split at h
  · next hc => exact ⟨hc, by unfold St.closedEnd; split at h <;> simp_all⟩
  · cases h

theorem mem_turns {s s' : St} (h : s' ∈ turns s) :
    s.alive = true ∧ (s' ∈ waitTurns s ∨ s' ∈ recvTurns s ∨ s' ∈ closedOutcome s) := by
  unfold turns at h
  split at h
  · cases h
  · next hal =>
    refine ⟨by simpa using hal, ?_⟩
    split at h
    · exact Or.inr (Or.inr h)
    · exact (List.mem_append.1 h).imp_right Or.inl

theorem turns_cases {P : St → Prop} (s : St)
    (wait : ∀ c, waitReady s = some c → P (waitBranch { s with parked := false } c))
    (recv : ∀ src m s1, src ∈ recvCandidates s → Take s src m s1 → P (handle { s1 with parked := false } m))
    (closed : closedIdle s = true → P s.closedEnd) :
    ∀ s' ∈ turns s, P s' := by
  intro s' hs'
  rcases (mem_turns hs').2 with hw | hr | hc
  · obtain ⟨c, hc, rfl⟩ := mem_waitTurns hw
    exact wait c hc
  · obtain ⟨src, m, s1, hsrc, ht, rfl⟩ := mem_recvTurns hr
    exact recv src m s1 hsrc ht
  · rw [(mem_closedOutcome hc).2]
    exact closed (mem_closedOutcome hc).1

theorem turns_eq_candidates {s : St} (hal : s.alive = true) (hne : turnCandidates s ≠ []) : turns s = turnCandidates s := by
  unfold turns
  simp only [hal, Bool.not_true, Bool.false_eq_true, if_false]
  cases h : turnCandidates s with
  | nil => exact absurd h hne
  | cons a l => simp

theorem turns_ne_nil {s : St} {src : Src} (hal : s.alive = true) (hsrc : src ∈ recvCandidates s)
    (ht : (takeFrom s src).isSome = true) : turns s ≠ [] := by
  obtain ⟨⟨m, s1⟩, ht⟩ := Option.isSome_iff_exists.1 ht
  have hmem : handle { s1 with parked := false } m ∈ turnCandidates s :=
    List.mem_append_right _ (List.mem_filterMap.2 ⟨src, hsrc, by rw [ht]⟩)
  rw [turns_eq_candidates hal (List.ne_nil_of_mem hmem)]
  exact List.ne_nil_of_mem hmem

/-- the common tail of every (re)start: spawn, call the error handler if that failed, resolve the control -/
def St.spawnFin (s : St) (f : FlagId) : St :=
  if s.spawn.2 then s.spawn.1.raise f else s.spawn.1.errHandler.raise f

/-- the control finds nothing to do in this command state and only resolves -/
def Noop (cfg : Fixes) : Ctl → CS → Prop
  | .start, .running _ => True
  | .stop, cs | .gracefulStop _ _, cs | .tryRestart, cs | .tryGracefulRestart _ _, cs | .signal _, cs => ∀ c, cs ≠ .running c
  | .nextEnding, .finished _ => True
  | .nextEnding, .pending => cfg.f6 = true
  | _, _ => False

theorem spawnFin_keep {α} {π : St → α} (s : St) (f) (hp : ∀ s t, π (s.withProc t) = π s := by intros; rfl)
    (hf : ∀ s t, π (s.withFlags t) = π s := by intros; rfl) : π (s.spawnFin f) = π s := by
  unfold St.spawnFin
  split
  · exact ((flagStep_raise _ f).keep hf).trans ((procStep_spawn s).keep hp)
  · exact ((flagStep_raise _ f).keep hf).trans (((waitStep_errHandler _).flag.keep hf).trans ((procStep_spawn s).keep hp))

/-- A pending restart is carried out by the wait branch exactly as a control does it — except that without repair F2 a
    failed spawn leaves the restart's flag unraised. -/
theorem continueRestart_cases {P : St → Prop} (s : St) (idle : s.onEndRestart = none → P s)
    (restart : ∀ f, s.onEndRestart = some f → P (({ s with onEndRestart := none } : St).reset.spawnFin f))
    (lost : ∀ f, s.onEndRestart = some f → s.cfg.f2 = false → P ({ s with onEndRestart := none } : St).reset.spawn.1.errHandler) :
    P s.continueRestart := by
  unfold St.continueRestart
  split
  · next f hf =>
    have r := restart f hf
    unfold St.spawnFin at r
    simp only []
    split
    · rwa [if_pos ‹_›] at r
    · rw [if_neg ‹_›] at r
      split
      · exact r
      · exact lost f hf (Bool.eq_false_iff.2 ‹_›)
  · next h => exact idle h

theorem continueRestart_keep {α} {π : St → α} (s : St) (hp : ∀ s t, π (s.withProc t) = π s := by intros; rfl)
    (hf : ∀ s t, π (s.withFlags t) = π s := by intros; rfl)
    (ho : ∀ s : St, π { s with onEndRestart := none } = π s := by intros; rfl) : π s.continueRestart = π s :=
  continueRestart_cases (P := fun t => π t = π s) s (fun _ => rfl)
    (fun f _ => (spawnFin_keep _ f hp hf).trans (((procStep_reset _).keep hp).trans (ho s)))
    fun _ _ _ => ((waitStep_errHandler _).flag.keep hf).trans
      ((((procStep_reset _).trans (procStep_spawn _)).keep hp).trans (ho s))

theorem continueRestart_eq {s : St} (hf2 : s.cfg.f2 = true) :
    s.continueRestart = match s.onEndRestart with
      | some f => { s with onEndRestart := none }.reset.spawnFin f
      | none => s := by
  refine continueRestart_cases (P := fun t => t = _) s (fun h => ?_) (fun f h => ?_) fun _ _ h => ?_
  · rw [h]
  · rw [h]
  · rw [hf2] at h; cases h

/-- what a forced restart starts from: the state itself if nothing runs, else the child killed and reaped and the end flags raised -/
inductive Stopped (s : St) : St → Prop
  | idle : (∀ c, s.cs ≠ .running c) → Stopped s s
  | killed (c : ChildId) : s.cs = .running c → Stopped s (s.killReap c).endFlags

theorem handle_cases {P : St → Prop} (s : St) (m : Msg)
    (noop : Noop s.cfg m.ctl s.cs → P (s.raise m.done))
    (start : m.ctl = .start → (∀ c, s.cs ≠ .running c) → P (s.reset.spawnFin m.done))
    (stop : ∀ c, m.ctl = .stop → s.cs = .running c → P ((s.killReap c).endFlags.raise m.done))
    (gracefulStop : ∀ c sig grace, m.ctl = .gracefulStop sig grace → s.cs = .running c →
      P { s.signalChild c sig with timer := some ⟨(s.signalChild c sig).now + grace, m.done, false⟩ })
    (tryRestart : ∀ c, m.ctl = .tryRestart → s.cs = .running c → P ((s.killReap c).reset.endFlags.spawnFin m.done))
    (tryGracefulRestart : ∀ c sig grace, m.ctl = .tryGracefulRestart sig grace → s.cs = .running c →
      P { s.signalChild c sig with timer := some ⟨(s.signalChild c sig).now + grace, m.done, true⟩,
                                   onEndRestart := some m.done })
    (continueTGR : m.ctl = .continueTGR → ∀ s0, Stopped s s0 →
      P ((if s0.cfg.f4 then { s0 with onEndRestart := none } else s0).reset.spawnFin m.done))
    (signal : ∀ c sig, m.ctl = .signal sig → s.cs = .running c → P ((s.signalChild c sig).raise m.done))
    (delete : m.ctl = .delete → P ((({ s.raise m.done with alive := false }).emit .ended).raise 0))
    (nextEnding : m.ctl = .nextEnding → ¬ Noop s.cfg .nextEnding s.cs → P { s with onEnd := s.onEnd ++ [m.done] })
    (func : ∀ id, m.ctl = .func id → P ((s.emit (.func id (csName s.cs) (prevName s.prev))).raise m.done))
    (hook : ∀ b, m.ctl = (if b then .setHook else .unsetHook) → P ({ s with hookSet := b }.raise m.done))
    (err : ∀ b, m.ctl = (if b then .setErr else .unsetErr) → P ({ s with errSet := b }.raise m.done)) :
    P (handle s m) := by
  have idle : ∀ {cs : CS}, s.cs = cs → (∀ c, cs ≠ .running c) → ∀ c, s.cs ≠ .running c := fun h hn c => h ▸ hn c
  unfold handle
  cases hm : m.ctl <;> simp only []
  case start =>
    cases hcs : s.cs
    case running c => exact noop (by rw [hm, hcs]; trivial)
    all_goals exact start hm (idle hcs (by simp))
  case stop =>
    cases hcs : s.cs
    case running c => exact stop c hm hcs
    all_goals exact noop (by rw [hm, hcs]; simp [Noop])
  case gracefulStop sig grace =>
    cases hcs : s.cs
    case running c => exact gracefulStop c sig grace hm hcs
    all_goals exact noop (by rw [hm, hcs]; simp [Noop])
  case tryRestart =>
    cases hcs : s.cs
    case running c => exact tryRestart c hm hcs
    all_goals exact noop (by rw [hm, hcs]; simp [Noop])
  case tryGracefulRestart sig grace =>
    cases hcs : s.cs
    case running c => exact tryGracefulRestart c sig grace hm hcs
    all_goals exact noop (by rw [hm, hcs]; simp [Noop])
  case continueTGR =>
    cases hcs : s.cs
    case running c => exact continueTGR hm _ (.killed c hcs)
    all_goals exact continueTGR hm _ (.idle (idle hcs (by simp)))
  case signal sig =>
    cases hcs : s.cs
    case running c => exact signal c sig hm hcs
    all_goals exact noop (by rw [hm, hcs]; simp [Noop])
  case delete => exact delete hm
  case nextEnding =>
    split
    · next hcs => exact noop (by rw [hm, hcs]; trivial)
    · next hcs =>
      split
      · next h6 => exact noop (by rw [hm, hcs]; exact h6)
      · next h6 => exact nextEnding hm (by rw [hcs]; exact h6)
    · next hcs => exact nextEnding hm (by rw [hcs]; exact id)
  case func id => exact func id hm
  case setHook => exact hook true hm
  case unsetHook => exact hook false hm
  case setErr => exact err true hm
  case unsetErr => exact err false hm

theorem continueRestart_none {s : St} (h : s.onEndRestart = none) : s.continueRestart = s := by
  unfold St.continueRestart; rw [h]

theorem taskStep_endFlags (s : St) : TaskStep s s.endFlags := by
  unfold TaskStep; rw [endFlags_eq]; rfl

theorem taskStep_reap (s : St) (c) : TaskStep s (s.reap c) := by
  unfold TaskStep; rw [reap_eq]; rfl

theorem taskStep_spawnFin (s : St) (f) : TaskStep s (s.spawnFin f) := by
  unfold St.spawnFin
  split
  · exact (procStep_spawn s).task.trans (flagStep_raise _ f).task
  · exact (procStep_spawn s).task.trans ((waitStep_errHandler _).flag.task.trans (flagStep_raise _ f).task)

theorem taskStep_handle (s : St) (m : Msg) : TaskStep s (handle s m) := by
  have raise : ∀ {t : St} f, TaskStep s t → TaskStep s (t.raise f) := fun f h => h.trans (flagStep_raise _ f).task
  have fin : ∀ {t : St} f, TaskStep s t → TaskStep s (t.spawnFin f) := fun f h => h.trans (taskStep_spawnFin _ f)
  apply handle_cases s m
  case noop => exact fun _ => raise _ (.refl s)
  case start => exact fun _ _ => fin _ (procStep_reset s).task
  case stop => exact fun c _ _ => raise _ ((procStep_killReap s c).task.trans (taskStep_endFlags _))
  case gracefulStop => exact fun c sig _ _ _ => (procStep_signalChild s c sig).task.trans rfl
  case tryRestart =>
    exact fun c _ _ => fin _ (((procStep_killReap s c).trans (procStep_reset _)).task.trans (taskStep_endFlags _))
  case tryGracefulRestart => exact fun c sig _ _ _ => (procStep_signalChild s c sig).task.trans rfl
  case continueTGR =>
    intro _ s0 h0
    have h1 : TaskStep s s0 := by
      rcases h0 with ⟨-⟩ | ⟨c, -⟩
      · exact .refl _
      · exact (procStep_killReap s c).task.trans (taskStep_endFlags _)
    refine fin _ (TaskStep.trans ?_ (procStep_reset _).task)
    split
    · exact h1.trans rfl
    · exact h1
  case signal => exact fun c sig _ _ => raise _ (procStep_signalChild s c sig).task
  case delete => exact fun _ => raise _ ((raise _ (.refl s)).trans rfl)
  case nextEnding => exact fun _ _ => rfl
  case func => exact fun _ _ => raise _ (waitStep_emit s _).flag.task
  case hook => exact fun _ _ => raise _ rfl
  case err => exact fun _ _ => raise _ rfl

theorem taskStep_continueRestart (s : St) : TaskStep s s.continueRestart := by
  have h0 : TaskStep s ({ s with onEndRestart := none } : St).reset :=
    TaskStep.trans (t := { s with onEndRestart := none }) rfl (procStep_reset _).task
  exact continueRestart_cases (P := TaskStep s) s (fun _ => .refl s) (fun f _ => h0.trans (taskStep_spawnFin _ f))
    fun _ _ _ => h0.trans ((procStep_spawn _).task.trans (waitStep_errHandler _).flag.task)

theorem taskStep_waitBranch (s : St) (c) : TaskStep s (waitBranch s c) :=
  (taskStep_reap s c).trans ((flagStep_raiseAll _ _).task.trans ((taskStep_endFlags _).trans (taskStep_continueRestart _)))

/-- what `handle` does to a view `π` that reads neither the process side, nor the flag side, nor `onEnd`, the slot and the two
    hook switches: nothing, unless it arms the timer (the two graceful controls are one case, told apart by `r`) or ends -/
theorem handle_keep {α} (π : St → α) (s : St) (m : Msg) (hp : ∀ s t, π (s.withProc t) = π s := by intros; rfl)
    (hf : ∀ s t, π (s.withFlags t) = π s := by intros; rfl)
    (hw : ∀ (s : St) a b c d, π { s with onEnd := a, onEndRestart := b, hookSet := c, errSet := d } = π s := by intros; rfl) :
    (m.ctl ≠ .delete ∧ π (handle s m) = π s) ∨
    (∃ c sig g r, s.cs = .running c ∧ m.ctl = (if r then .tryGracefulRestart sig g else .gracefulStop sig g) ∧
      π (handle s m) = π { s with timer := some ⟨s.now + g, m.done, r⟩ }) ∨
    (m.ctl = .delete ∧ π (handle s m) = π { s with alive := false }) := by
  have raise : ∀ (t : St) f, π (t.raise f) = π t := fun t f => (flagStep_raise t f).keep hf
  have proc : ∀ {t u : St}, ProcStep t u → π u = π t := fun h => h.keep hp
  have ends : ∀ t : St, π t.endFlags = π t := fun t => by rw [endFlags_eq]; exact (hw _ _ _ _ _).trans (hf t _)
  have fin : ∀ (t : St) f, π (t.spawnFin f) = π t := fun t f => spawnFin_keep t f hp hf
  have emit : ∀ (t : St) o, π (t.emit o) = π t := fun t o => (waitStep_emit t o).flag.keep hf
  -- arming: the signal is process side, the restart slot does not count
  have arm : ∀ c sig g r oe, π { s.signalChild c sig with timer := some ⟨(s.signalChild c sig).now + g, m.done, r⟩, onEndRestart := oe } =
      π { s with timer := some ⟨s.now + g, m.done, r⟩ } := by
    intro c sig g r oe
    have h := procStep_signalChild s c sig
    rw [h.keep (π := St.now)]
    have e : ({ s.signalChild c sig with timer := some ⟨s.now + g, m.done, r⟩ } : St) =
        ({ s with timer := some ⟨s.now + g, m.done, r⟩ } : St).withProc (s.signalChild c sig) :=
      congrArg (fun t : St => { t with timer := some ⟨s.now + g, m.done, r⟩ }) h
    exact (hw { s.signalChild c sig with timer := some ⟨s.now + g, m.done, r⟩ } _ oe _ _).trans ((congrArg π e).trans (hp _ _))
  refine handle_cases (P := fun t => (m.ctl ≠ .delete ∧ π t = π s) ∨
    (∃ c sig g r, s.cs = .running c ∧ m.ctl = (if r then .tryGracefulRestart sig g else .gracefulStop sig g) ∧
      π t = π { s with timer := some ⟨s.now + g, m.done, r⟩ }) ∨ (m.ctl = .delete ∧ π t = π { s with alive := false })) s m
    ?noop ?start ?stop ?gracefulStop ?tryRestart ?tryGracefulRestart ?continueTGR ?signal ?delete ?nextEnding ?func ?hook ?err
  case noop => exact fun hno => .inl ⟨fun e => by rw [e] at hno; exact hno, raise _ _⟩
  case start => exact fun hm _ => .inl ⟨by simp [hm], (fin _ _).trans (proc (procStep_reset s))⟩
  case stop => exact fun c hm _ => .inl ⟨by simp [hm], (raise _ _).trans ((ends _).trans (proc (procStep_killReap s c)))⟩
  case gracefulStop => exact fun c sig g hm hc => .inr (.inl ⟨c, sig, g, false, hc, hm, arm c sig g false _⟩)
  case tryRestart =>
    exact fun c hm _ => .inl ⟨by simp [hm], (fin _ _).trans ((ends _).trans (proc ((procStep_killReap s c).trans (procStep_reset _))))⟩
  case tryGracefulRestart => exact fun c sig g hm hc => .inr (.inl ⟨c, sig, g, true, hc, hm, arm c sig g true _⟩)
  case continueTGR =>
    intro hm s0 h0
    have h1 : π s0 = π s := by
      rcases h0 with ⟨-⟩ | ⟨c, -⟩
      · rfl
      · exact (ends _).trans (proc (procStep_killReap s c))
    refine .inl ⟨by simp [hm], (fin _ _).trans ((proc (procStep_reset _)).trans ?_)⟩
    split
    · exact (hw s0 _ none _ _).trans h1
    · exact h1
  case signal => exact fun c sig hm _ => .inl ⟨by simp [hm], (raise _ _).trans (proc (procStep_signalChild s c sig))⟩
  case delete =>
    refine fun hm => .inr (.inr ⟨hm, (raise _ _).trans ((emit _ _).trans ?_)⟩)
    have e : ({ s.raise m.done with alive := false } : St) = ({ s with alive := false } : St).withFlags (s.raise m.done) :=
      congrArg (fun t : St => { t with alive := false }) (flagStep_raise s m.done)
    exact (congrArg π e).trans (hf _ _)
  case nextEnding => exact fun hm _ => .inl ⟨by simp [hm], hw s _ _ _ _⟩
  case func => exact fun _ hm => .inl ⟨by simp [hm], (raise _ _).trans (emit s _)⟩
  case hook => exact fun b hm => .inl ⟨by cases b <;> simp [hm], (raise _ _).trans (hw s _ _ b _)⟩
  case err => exact fun b hm => .inl ⟨by cases b <;> simp [hm], (raise _ _).trans (hw s _ _ _ b)⟩

theorem waitBranch_keep {α} (π : St → α) (s : St) (c : ChildId) (hp : ∀ s t, π (s.withProc t) = π s := by intros; rfl)
    (hf : ∀ s t, π (s.withFlags t) = π s := by intros; rfl)
    (hw : ∀ (s : St) a b c d, π { s with onEnd := a, onEndRestart := b, hookSet := c, errSet := d } = π s := by intros; rfl) :
    π (waitBranch s c) = π { s with timer := none } := by
  unfold waitBranch
  rw [continueRestart_keep _ hp hf (fun t => hw t _ none _ _), endFlags_eq]
  refine (hw _ [] _ _ _).trans ((hf _ _).trans (((flagStep_raiseAll _ _).keep hf).trans ?_))
  rw [reap_eq]
  exact hp { s with timer := none } _

@[simp] theorem emit_timer (s : St) (o) : (s.emit o).timer = s.timer := rfl

theorem signalChild_now (s : St) (c g) : (s.signalChild c g).now = s.now := (procStep_signalChild s c g).keep

theorem handle_timer (s : St) (m : Msg) : (handle s m).timer = s.timer ∨
    ∃ c sig g r, s.cs = .running c ∧ m.ctl = (if r then .tryGracefulRestart sig g else .gracefulStop sig g) ∧
      (handle s m).timer = some ⟨s.now + g, m.done, r⟩ := by
  rcases handle_keep St.timer s m with
    ⟨-, h⟩ | ⟨c, sig, g, r, hc, hm, h⟩ | ⟨-, h⟩
  · exact .inl h
  · exact .inr ⟨c, sig, g, r, hc, hm, h⟩
  · exact .inl h

theorem waitBranch_timer (s : St) (c) : (waitBranch s c).timer = none :=
  waitBranch_keep St.timer s c

@[simp] theorem emit_alive (s : St) (o) : (s.emit o).alive = s.alive := rfl
theorem foldl_resolve_alive (ws : List WaiterId) (s : St) : (ws.foldl St.resolveWaiter s).alive = s.alive :=
  (waitStep_foldl waitStep_resolveWaiter ws s).keep
theorem raise_alive (s : St) (f) : (s.raise f).alive = s.alive := (flagStep_raise s f).keep

theorem handle_alive (s : St) (m : Msg) :
    (m.ctl = .delete → (handle s m).alive = false) ∧ (m.ctl ≠ .delete → (handle s m).alive = s.alive) := by
  rcases handle_keep St.alive s m with
    ⟨hm, h⟩ | ⟨c, sig, g, r, -, hm, h⟩ | ⟨hm, h⟩
  · exact ⟨fun e => absurd e hm, fun _ => h⟩
  · exact ⟨fun e => (by rw [hm] at e; cases r <;> cases e), fun _ => h⟩
  · exact ⟨fun _ => h, fun e => absurd hm e⟩

theorem waitBranch_alive (s : St) (c) : (waitBranch s c).alive = s.alive :=
  waitBranch_keep St.alive s c

theorem closedEnd_alive (s : St) : s.closedEnd.alive = false := by
  unfold St.closedEnd
  split
  · exact raise_alive _ _
  · rfl

theorem taskStep_closedEnd (s : St) : TaskStep s s.closedEnd := by
  unfold St.closedEnd
  split
  · exact TaskStep.trans (t := ({ s with alive := false } : St).emit .ended) rfl (flagStep_raise _ 0).task
  · rfl

theorem turns_cfg {s : St} : ∀ s' ∈ turns s, s'.cfg = s.cfg := by
  refine turns_cases s ?wait ?recv ?closed
  case wait => exact fun c _ => (taskStep_waitBranch _ c).keep
  case recv =>
    exact fun _ m _ _ ht => ((taskStep_handle _ m).keep (π := St.cfg)).trans (by cases ht <;> rfl)
  case closed => exact fun _ => (taskStep_closedEnd s).keep

end Jm
