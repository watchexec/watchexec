import Wx.Job.C09
/-! C09, whole run: in EVERY reachable state of EVERY history the observable state `(cs, prev, hook, error handler,
    spawn count)` and the log of process-visible effects are those of SOME run of the documented machine — a sequence of
    `specStep`s and `specExit`s, and `ended` when the job is deleted or all its handles are dropped. (The proof takes one
    `specStep` per executed control and one `specExit` per natural end of a child; `SpecRun` does not record which.) -/
namespace Jm

/-- runs of the documented machine from `sp0`: reachable (state, effect log — newest first) -/
inductive SpecRun (sp0 : Sp) : Sp → List Obs → Prop
  | start : SpecRun sp0 sp0 []
  | control (sp : Sp) (fx : List Obs) (c : Ctl) : SpecRun sp0 sp fx →
      SpecRun sp0 (specStep sp c).1 ((specStep sp c).2.1.reverse ++ fx)
  | childEnds (sp : Sp) (fx : List Obs) (c : ChildId) (status : Nat) (restartPending : Bool) : SpecRun sp0 sp fx → sp.cs = .running c →
      SpecRun sp0 (specExit sp c status restartPending).1 ((specExit sp c status restartPending).2.reverse ++ fx)
  | handlesDropped (sp : Sp) (fx : List Obs) : SpecRun sp0 sp fx → SpecRun sp0 sp (.ended :: fx)

/-- C04's `Inv` is there for the `hch` of `handle_refines` and `waitBranch_refines` (`child_of_inv`) -/
def RunInv (sp0 : Sp) (s : St) : Prop := s.cfg = Fixes.all ∧ Inv s ∧ SpecRun sp0 s.abs s.fx

/-- all that `RunInv` reads (`Inv` reads `cs` and `spawnCount`, which are part of `abs`, and `children`) -/
theorem RunInv.congr {sp0 : Sp} {t s : St} (h : RunInv sp0 s) (hc : t.cfg = s.cfg := by rfl) (hch : t.children = s.children := by rfl)
    (ha : t.abs = s.abs := by rfl) (hf : t.fx = s.fx := by rfl) : RunInv sp0 t :=
  ⟨hc.trans h.1, h.2.1.congr (congrArg Sp.cs ha) hch (congrArg Sp.n ha), by rw [ha, hf]; exact h.2.2⟩

theorem RunInv.flag {sp0 : Sp} {s t : St} (h : RunInv sp0 s) (hw : FlagStep s t) (hf : t.fx = s.fx) : RunInv sp0 t :=
  h.congr hw.keep hw.keep (hw.keep abs_withFlags) hf

theorem runInv_handle {sp0 : Sp} {s : St} (m : Msg) (h : RunInv sp0 s) : RunInv sp0 (handle s m) := by
  obtain ⟨r1, r2, -⟩ := handle_refines s m h.1 fun c hc => child_of_inv h.2.1 hc
  refine ⟨(taskStep_handle s m).keep.trans h.1, inv_handle m h.2.1, ?_⟩
  rw [r1, r2]
  exact .control s.abs s.fx m.ctl h.2.2

theorem runInv_waitBranch {sp0 : Sp} {s : St} {c} (h : RunInv sp0 s) (hc : s.cs = .running c) : RunInv sp0 (waitBranch s c) := by
  obtain ⟨r1, r2⟩ := waitBranch_refines s c h.1
  refine ⟨(taskStep_waitBranch s c).keep.trans h.1, inv_waitBranch h.2.1 hc, ?_⟩
  rw [r1, r2]
  exact .childEnds s.abs s.fx c _ _ h.2.2 hc

theorem runInv_turns {sp0 : Sp} {s : St} (h : RunInv sp0 s) : ∀ s' ∈ turns s, RunInv sp0 s' := by
  refine turns_cases s ?wait ?recv ?closed
  case wait => exact fun c hc => runInv_waitBranch h.congr (waitReady_running hc)
  case recv =>
    intro src m s1 _ ht
    have h1 : RunInv sp0 s1 := by cases ht <;> exact h.congr
    exact runInv_handle m h1.congr
  case closed =>
    -- the handles are gone: the task ends (repair F16)
    intro _
    rw [St.closedEnd, if_pos (by rw [h.1]; rfl)]
    have h1 : RunInv sp0 (({ s with alive := false } : St).emit .ended) :=
      ⟨h.1, h.2.1.congr, by rw [fx_emit _ _ rfl]; exact .handlesDropped _ _ h.2.2⟩
    exact h1.flag (flagStep_raise _ 0) (raise_fx _ 0)

section
variable {sp0 : Sp} {s : St} (h : RunInv sp0 s)
include h

theorem RunInv.park : RunInv sp0 (park s) := by unfold Jm.park; split; exact h.congr; exact h
theorem RunInv.drain : RunInv sp0 (drainPolls s) := h.flag (waitStep_drainPolls s).flag (drainPolls_fx s)
theorem RunInv.newWaiter (w f) : RunInv sp0 (pollWaiter { s with waiters := s.waiters ++ [{ id := w, done := f }] } w) :=
  h.congr.flag (waitStep_pollWaiter _ _).flag (pollWaiter_fx _ _)
theorem RunInv.enqueue (p m) : RunInv sp0 (enqueue s p m) := by cases p <;> exact h.congr
end

theorem runInv_simInv (sp0 : Sp) : SimInv2 (fun x => RunInv sp0 x.st) (fun _ _ => True) :=
  simInv2_ofSt (fun _ h => runInv_turns h) (fun _ h => h.park) (fun _ h => h.drain) (fun _ _ h => h.congr)
    (fun _ p m _ h => h.enqueue p m)
    (fun _ _ h => h.congr)  -- a ticket entry is not an effect
    (fun _ w f h => h.newWaiter w f) (fun _ h => h.congr)

theorem runInv_init (behs : List Beh) :
    RunInv ({ cfg := Fixes.all, behs := behs, hookSet := true, parked := true } : St).abs
      { cfg := Fixes.all, behs := behs, hookSet := true, parked := true } :=
  ⟨rfl, inv_init _ behs, .start⟩

/-- **C09, whole run**: for every behaviour script, every operation script (any controls at any priority, time, handle
    drops) and every resolution of every race, the observable state and the effect log of every reachable state are those
    of a run of the documented machine from the initial state -/
theorem c09_whole_run (behs : List Beh) (ops : List Op) :
    let x0 : Sim := { st := { cfg := Fixes.all, behs := behs, hookSet := true, parked := true } }
    ∀ y ∈ runOps x0 ops, SpecRun x0.st.abs y.st.abs y.st.fx := by
  intro x0 y hy
  exact ((runInv_simInv x0.st.abs).runOps ops (fun o _ => (opOkFor_true o).two) (runInv_init behs) y hy).2.2

#print axioms c09_whole_run

end Jm
