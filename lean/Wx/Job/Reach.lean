import Wx.Job.SimInduct
/-! Everything ANY client of a job can make happen, as a closure of primitive steps: the job task takes a turn, parks,
    waiter tasks poll, time passes, handles are dropped, a control is sent (cancelled, or enqueued control by control and
    then possibly awaited). Settling walks this closure, and so does the CLI's action logic composed with the job task
    (`Wx.Cli.ComposeThm`). A `SimInv2` invariant holds on the whole closure. -/
namespace Jm

inductive Reach (SendOk : Prio → Ctl → Prop) : Sim → Sim → Prop
  | refl (x) : Reach SendOk x x
  | turn {x y} (s') : Reach SendOk x y → s' ∈ turns y.st → Reach SendOk x { y with st := s' }
  | park {x y} : Reach SendOk x y → Reach SendOk x { y with st := Jm.park y.st }
  | drain {x y} : Reach SendOk x y → Reach SendOk x { y with st := drainPolls y.st }
  | now {x y} (t : Nat) : Reach SendOk x y → Reach SendOk x { y with st := { y.st with now := t } }
  | close {x y} : Reach SendOk x y → Reach SendOk x { y with st := { y.st with closed := true } }
  | cancel {x y} (aw : Bool) : Reach SendOk x y → Reach SendOk x (cancelSend y aw)
  | sendOne {x y} (p : Prio) (c : Ctl) : SendOk p c → Reach SendOk x y → Reach SendOk x (Jm.sendOne y p c)
  | finish {x y} (aw : Bool) : Reach SendOk x y → Reach SendOk x (finishSend y aw)

variable {I : Sim → Prop} {SendOk : Prio → Ctl → Prop}

theorem SimInv2.reach (H : SimInv2 I SendOk) {x y : Sim} (h : I x) (r : Reach SendOk x y) : I y := by
  induction r with
  | refl => exact h
  | turn s' _ hs ih => exact H.turns _ ih s' hs
  | park _ ih => exact H.park _ ih
  | drain _ ih => exact H.drain _ ih
  | now t _ ih => exact H.now _ t ih
  | close _ ih => exact H.close _ ih
  | cancel aw _ ih => exact H.cancel _ aw ih
  | sendOne p c hc _ ih => exact H.sendOne _ p c hc ih
  | finish aw _ ih => exact H.finish _ aw ih

theorem Reach.trans {x y z : Sim} (h1 : Reach SendOk x y) (h2 : Reach SendOk y z) : Reach SendOk x z := by
  induction h2 with
  | refl => exact h1
  | turn s' _ hs ih => exact .turn s' ih hs
  | park _ ih => exact .park ih
  | drain _ ih => exact .drain ih
  | now t _ ih => exact .now t ih
  | close _ ih => exact .close ih
  | cancel aw _ ih => exact .cancel aw ih
  | sendOne p c hc _ ih => exact .sendOne p c hc ih
  | finish aw _ ih => exact .finish aw ih

theorem Reach.doSend {x y : Sim} (p : Prio) (cs : List Ctl) (aw : Bool) (hs : ∀ c ∈ cs, SendOk p c) (h : Reach SendOk x y) :
    Reach SendOk x (Jm.doSend y p cs aw) :=
  doSend_ind (Reach SendOk x) p cs aw hs (fun _ => .cancel aw) (fun _ c hc => .sendOne p c hc) (fun _ => .finish aw) h

theorem reach_settleAll (fuel : Nat) {x y : Sim} (h : Reach SendOk x y) : ∀ s ∈ settleAll fuel y.st, Reach SendOk x { y with st := s } :=
  settleAll_ind (Reach SendOk x) (fun _ s' h hs => .turn s' h hs) (fun _ => .park) (fun _ => .drain) fuel h

end Jm
