import Wx.Job.C08t
/-! C08, the composition over the job map: the worker's graceful-quit branch (`action/worker.rs`) drains `jobs`, and for
    EVERY job spawns `stop_with_signal(signal, grace); delete().await`, joins those tasks and then joins every job task.
    The job tasks share nothing but the clock, so a run of the whole shutdown is one run per job (`Finals`), read at one
    common instant `T`; the main task is past its two `join_all`s exactly when no job task is alive. The bound is the
    LARGEST per-job deadline, not their sum (which is what the seeded change "one shutdown task for all jobs, one after
    the other" would allow). -/
namespace Jm

theorem dead_simInv : SimInv (fun s => s.alive = false) (fun _ _ => True) :=
  .ofView St.alive (fun h => h.trans)
    (fun s h s' hs' => by rw [(mem_turns hs').1] at h; cases h) (fun s p _ _ h => by cases p <;> exact h)

theorem dead_stays_dead (x : Sim) (h : x.st.alive = false) (ops : List Op) : ∀ y ∈ runOps x ops, y.st.alive = false :=
  dead_simInv.runOps ops (fun o _ => opOkFor_true o) h

/-- what the worker does to one job at a graceful quit -/
def quitJob (x : Sim) (sig : Sig) (g : Nat) : Sim :=
  doSend (doSend x .normal [.gracefulStop sig g] false) .normal [.stop, .delete] false

theorem quitJob_dead (x : Sim) (sig : Sig) (g : Nat) (h : x.st.alive = false) : (quitJob x sig g).st.alive = false := by
  have := dead_stays_dead x h [.send .normal [.gracefulStop sig g] false, .send .normal [.stop, .delete] false]
  exact this _ (by simp [runOps, stepOp, quitJob])

/-- the instant by which one job is gone: nothing for a task that has already ended, else its deadline at the quit plus
    the quit's own grace period -/
def jobBound (x : Sim) (g : Nat) : Nat := if x.st.alive then deadline x.st + g else 0

def mainBound (xs : List Sim) (g : Nat) : Nat := (xs.map (jobBound · g)).foldl max 0

theorem le_foldl_max (l : List Nat) (a : Nat) : a ≤ l.foldl max a ∧ ∀ x ∈ l, x ≤ l.foldl max a := by
  induction l generalizing a with
  | nil => exact ⟨Nat.le_refl _, by simp⟩
  | cons y l ih =>
    obtain ⟨h1, h2⟩ := ih (max a y)
    refine ⟨Nat.le_trans (Nat.le_max_left _ _) h1, ?_⟩
    intro x hx
    rcases List.mem_cons.1 hx with rfl | hx
    · exact Nat.le_trans (Nat.le_max_right _ _) h1
    · exact h2 x hx

theorem jobBound_le_mainBound {xs : List Sim} {x : Sim} (g : Nat) (hx : x ∈ xs) : jobBound x g ≤ mainBound xs g :=
  (le_foldl_max _ 0).2 _ (List.mem_map.2 ⟨x, hx, rfl⟩)

/-- one final state per job: a run of the whole shutdown -/
inductive Finals (sig : Sig) (g : Nat) : List (Sim × List Op) → List Sim → Prop
  | nil : Finals sig g [] []
  | cons {x ops y r ys} : y ∈ runOps (quitJob x sig g) ops → Finals sig g r ys → Finals sig g ((x, ops) :: r) (y :: ys)

/-- every job in the map is a job of the repaired code; it is either still reachable (gone flag not raised) or its task
    has ended (the map is garbage-collected only after each action, so dead jobs can still be in it) -/
def JobOk (j : Sim × List Op) : Prop :=
  j.1.st.cfg = Fixes.all ∧ (j.1.st.isRaised 0 = false ∨ j.1.st.alive = false) ∧ ∀ o ∈ j.2, OpOkFor2 NoGrace o

/-- **C08, the main task** — any number of jobs, each in ANY state the worker can find it in (never started, running,
    finished, mid graceful restart with an armed timer, already deleted, controls pending), each continuing with its own
    history after the quit (races, child behaviours, sends without a grace period, handle drops). At any common instant
    `T` later than the largest per-job bound, no job task is alive: both `join_all`s of the quit branch have returned. -/
theorem c08_main_bound (sig : Sig) (g : Nat) (jobs : List (Sim × List Op)) (hj : ∀ j ∈ jobs, JobOk j)
    (ys : List Sim) (hf : Finals sig g jobs ys) (T : Nat) (hT : ∀ y ∈ ys, y.st.now = T)
    (hlt : mainBound (jobs.map (·.1)) g < T) : ∀ y ∈ ys, y.st.alive = false := by
  have hB : ∀ j ∈ jobs, jobBound j.1 g < T := fun j hj' =>
    Nat.lt_of_le_of_lt (jobBound_le_mainBound g (List.mem_map_of_mem hj')) hlt
  clear hlt
  induction hf with
  | nil => intro y hy; cases hy
  | @cons x ops y r ys hy _ ih =>
    have hx := hj (x, ops) List.mem_cons_self
    intro z hz
    rcases List.mem_cons.1 hz with rfl | hz
    · cases hal : x.st.alive with
      | false => exact dead_stays_dead _ (quitJob_dead x sig g hal) ops _ hy
      | true =>
        rcases hx.2.1 with hgone | hdead
        · have hnow := hT z List.mem_cons_self
          have hb : jobBound x g < T := hB (x, ops) List.mem_cons_self
          have : jobBound x g = deadline x.st + g := by simp [jobBound, hal]
          exact c08_quit_bound x hx.1 hgone sig g ops hx.2.2 z hy (by omega)
        · rw [hal] at hdead; cases hdead
    · exact ih (fun j hj' => hj j (List.mem_cons_of_mem _ hj')) (fun y hy => hT y (List.mem_cons_of_mem _ hy))
        (fun j hj' => hB j (List.mem_cons_of_mem _ hj')) z hz

/-- the bound is the maximum, not the sum: two jobs whose children ignore the signal, grace 40 each, quit at 20 —
    both are gone at 60 (kernel-evaluated on the model; the real worker is compared with this by the quit-sim stream) -/
example :
    let x0 : Sim := { st := { cfg := Fixes.all, behs := [.ignores], hookSet := true, parked := true } }
    (runOps x0 [.send .normal [.start] false, .advance 20]).all (fun x =>
      mainBound [x, x] 40 == 60 &&
      (runOps (quitJob x 15 40) [.advance 41]).all (fun y => y.st.now == 61 && !y.st.alive)) = true := by decide

#print axioms c08_main_bound
#print axioms dead_stays_dead
end Jm
