import Wx.Job.C04
import Wx.Job.C07
/-! C07, waiter side (repair F3/F5: a flag keeps every registered waker): whenever a control's flag
    or the job's `gone` flag is raised, every ticket waiting on it has resolved. -/
namespace Jm

structure WV where
  raised : List FlagId
  slots : List (FlagId × WaiterId)
  waiters : List Waiter
  f35 : Bool

def St.wv (s : St) : WV := ⟨s.raised, s.slots, s.waiters, s.cfg.f35⟩

def mark (ws : List WaiterId) (wt : Waiter) : Waiter := if wt.id ∈ ws then { wt with resolved := true } else wt

theorem mark_id (ws) (wt : Waiter) : (mark ws wt).id = wt.id := by unfold mark; split <;> rfl
theorem mark_done (ws) (wt : Waiter) : (mark ws wt).done = wt.done := by unfold mark; split <;> rfl
theorem map_mark_ids (ws) (l : List Waiter) : (l.map (mark ws)).map (·.id) = l.map (·.id) := by
  rw [List.map_map]
  exact List.map_congr_left fun x _ => mark_id ws x

theorem map_mark_self {ws} {l : List Waiter} (h : ∀ x ∈ l, x.id ∈ ws → x.resolved = true) : l.map (mark ws) = l := by
  refine (List.map_congr_left fun x hx => ?_).trans (List.map_id l)
  unfold mark
  split
  · next hin =>
    cases x with
    | mk i d r => have : r = true := h _ hx hin; subst this; rfl
  · rfl

theorem mem_map_mark {ws} {l : List Waiter} {wt : Waiter} (h : wt ∈ l.map (mark ws)) (hres : wt.resolved = false) :
    wt ∈ l ∧ wt.id ∉ ws := by
  obtain ⟨x, hx, rfl⟩ := List.mem_map.1 h
  unfold mark at hres ⊢
  split at hres
  · cases hres
  · next hn => rw [if_neg hn]; exact ⟨hx, hn⟩

theorem mark_mark (w : WaiterId) (ws : List WaiterId) (wt : Waiter) : mark ws (mark [w] wt) = mark (w :: ws) wt := by
  unfold mark
  by_cases h1 : wt.id = w <;> by_cases h2 : wt.id ∈ ws <;> simp [h1, h2]

theorem find_id {l : List Waiter} {w : WaiterId} {wt : Waiter} (hn : (l.map (·.id)).Nodup)
    (h : l.find? (·.id == w) = some wt) : wt.id = w ∧ ∀ x ∈ l, x.id = w → x = wt := by
  have hid : wt.id = w := by simpa using List.find?_some h
  exact ⟨hid, fun x hx hxw => nodup_map_inj (·.id) l hn x hx wt (List.mem_of_find?_eq_some h) (hxw.trans hid.symm)⟩

theorem find_none {l : List Waiter} {w : WaiterId} (h : l.find? (·.id == w) = none) : ∀ x ∈ l, x.id ≠ w :=
  fun x hx he => by simpa [he] using List.find?_eq_none.1 h x hx

theorem resolveWaiter_wv (s : St) (w : WaiterId) (hn : (s.waiters.map (·.id)).Nodup) :
    (s.resolveWaiter w).raised = s.raised ∧ (s.resolveWaiter w).slots = s.slots ∧ (s.resolveWaiter w).cfg = s.cfg ∧
    (s.resolveWaiter w).waiters = s.waiters.map (mark [w]) := by
  unfold St.resolveWaiter
  split
  · next wt hf =>
    obtain ⟨-, only⟩ := find_id hn hf
    split
    · next hr =>
      refine ⟨rfl, rfl, rfl, (map_mark_self fun x hx hxw => ?_).symm⟩
      rw [only x hx (by simpa using hxw)]; exact hr
    · exact ⟨rfl, rfl, rfl, List.map_congr_left fun x _ => by simp [mark]⟩
  · next hf =>
    exact ⟨rfl, rfl, rfl, (map_mark_self fun x hx hxw => absurd (by simpa using hxw) (find_none hf x hx)).symm⟩

theorem foldl_resolve_wv (ws : List WaiterId) (s : St) (hn : (s.waiters.map (·.id)).Nodup) :
    (ws.foldl St.resolveWaiter s).raised = s.raised ∧ (ws.foldl St.resolveWaiter s).slots = s.slots ∧
    (ws.foldl St.resolveWaiter s).cfg = s.cfg ∧
    (ws.foldl St.resolveWaiter s).waiters = s.waiters.map (mark ws) := by
  induction ws generalizing s with
  | nil => exact ⟨rfl, rfl, rfl, (map_mark_self fun _ _ h => by cases h).symm⟩
  | cons w ws ih =>
    obtain ⟨a, b, c, d⟩ := resolveWaiter_wv s w hn
    obtain ⟨a', b', c', d'⟩ := ih (s.resolveWaiter w) (by rw [d, map_mark_ids]; exact hn)
    refine ⟨a'.trans a, b'.trans b, c'.trans c, ?_⟩
    rw [List.foldl_cons, d', d, List.map_map]
    exact List.map_congr_left fun x _ => mark_mark w ws x

theorem raise_wv (s : St) (f : FlagId) (hn : (s.waiters.map (·.id)).Nodup) :
    (∀ g, (s.raise f).isRaised g = (s.isRaised g || g == f)) ∧
    (s.raise f).slots = s.slots.filter (·.1 != f) ∧ (s.raise f).cfg = s.cfg ∧
    (s.raise f).waiters = s.waiters.map (mark ((s.slots.filter (·.1 == f)).map (·.2))) :=
  ⟨raise_raised s f, (foldl_resolve_wv _
    { s with raised := if s.raised.contains f then s.raised else f :: s.raised, slots := s.slots.filter (·.1 != f) } hn).2⟩

theorem emit_wv (s : St) (o) : (s.emit o).wv = s.wv := rfl
theorem setChild_wv (s : St) (ch) : (s.setChild ch).wv = s.wv := rfl
theorem ProcStep.wv {s t : St} (h : ProcStep s t) : t.wv = s.wv := h.keep

/-- every unresolved waiter is registered with its own flag and with `gone` (flag 0), neither raised; ids are distinct -/
def WInvS (s : St) : Prop :=
  (s.waiters.map (·.id)).Nodup ∧
  ∀ wt ∈ s.waiters, wt.resolved = false →
    s.isRaised wt.done = false ∧ s.isRaised 0 = false ∧ (wt.done, wt.id) ∈ s.slots ∧ (0, wt.id) ∈ s.slots

theorem winv_congr {t s : St} (h : t.wv = s.wv) (hi : WInvS s) : WInvS t := by
  have h1 : t.raised = s.raised := congrArg WV.raised h
  have h2 : t.slots = s.slots := congrArg WV.slots h
  have h3 : t.waiters = s.waiters := congrArg WV.waiters h
  unfold WInvS St.isRaised at *
  rw [h1, h2, h3]; exact hi

theorem winv_raise {s : St} (f : FlagId) (hi : WInvS s) : WInvS (s.raise f) := by
  obtain ⟨hr, hs, _, hw⟩ := raise_wv s f hi.1
  refine ⟨by rw [hw, map_mark_ids]; exact hi.1, fun wt hwt hres => ?_⟩
  -- still unresolved, so not registered with `f`
  rw [hw] at hwt
  obtain ⟨hwt, hnot⟩ := mem_map_mark hwt hres
  -- hence each flag it is registered with is another one: not raised now, registration kept
  have other : ∀ g, s.isRaised g = false → (g, wt.id) ∈ s.slots →
      (s.raise f).isRaised g = false ∧ (g, wt.id) ∈ (s.raise f).slots := by
    intro g hg hm
    have hne : g ≠ f := fun he => hnot (List.mem_map.2 ⟨(g, wt.id), List.mem_filter.2 ⟨hm, by simp [he]⟩, rfl⟩)
    exact ⟨by rw [hr, hg]; simp [hne], by rw [hs]; exact List.mem_filter.2 ⟨hm, by simp [hne]⟩⟩
  obtain ⟨a, b, c, d⟩ := hi.2 wt hwt hres
  exact ⟨(other _ a c).1, (other _ b d).1, (other _ a c).2, (other _ b d).2⟩

/-- `t` is `s` after some raises, up to fields the invariant does not read -/
inductive RF (s : St) : St → Prop
  | base (t : St) : t.wv = s.wv → RF s t
  | raise (t : St) (f : FlagId) : RF s t → RF s (t.raise f)
  | frame (t t' : St) : RF s t → t'.wv = t.wv → RF s t'

theorem RF.keeps {P : St → Prop} (hc : ∀ {t u : St}, u.wv = t.wv → P t → P u) (hr : ∀ {t : St} f, P t → P (t.raise f))
    {s t : St} (h : RF s t) (hs : P s) : P t := by
  induction h with
  | base t h => exact hc h hs
  | raise t f _ ih => exact hr f ih
  | frame t t' _ h ih => exact hc h ih

theorem winv_rf {s t : St} (h : RF s t) (hi : WInvS s) : WInvS t := h.keeps winv_congr winv_raise hi

theorem RF.refl (s : St) : RF s s := RF.base s rfl

theorem RF.trans {s t u : St} (h1 : RF s t) (h2 : RF t u) : RF s u := by
  induction h2 with
  | base u h => exact .frame t u h1 h
  | raise u f _ ih => exact .raise u f ih
  | frame u u' _ h ih => exact .frame u u' ih h

theorem RF.proc {s t u : St} (h : RF s t) (hu : ProcStep t u) : RF s u := .frame t u h hu.wv

theorem RF.raiseAll {s t : St} (fs : List FlagId) (h : RF s t) : RF s (t.raiseAll fs) := by
  unfold St.raiseAll
  induction fs generalizing t with
  | nil => exact h
  | cons f fs ih => exact ih (.raise t f h)

theorem RF.endFlags {s t : St} (h : RF s t) : RF s t.endFlags := .frame (t.raiseAll t.onEnd) _ (h.raiseAll _) rfl

theorem RF.spawnFin {s t : St} (f : FlagId) (h : RF s t) : RF s (t.spawnFin f) := by
  unfold St.spawnFin
  split
  · exact .raise _ f (h.proc (procStep_spawn t))
  · exact .raise _ f ((h.proc (procStep_spawn t)).proc (procStep_errHandler _))

theorem rf_handle (s : St) (m : Msg) : RF s (handle s m) := by
  have s0 := RF.refl s
  apply handle_cases s m
  case noop => exact fun _ => .raise s _ s0
  case start => exact fun _ _ => (s0.proc (procStep_reset s)).spawnFin _
  case stop => exact fun c _ _ => .raise _ _ (s0.proc (procStep_killReap s c)).endFlags
  case gracefulStop => exact fun c sig _ _ _ => .frame _ _ (s0.proc (procStep_signalChild s c sig)) rfl
  case tryRestart =>
    exact fun c _ _ => (s0.proc ((procStep_killReap s c).trans (procStep_reset _))).endFlags.spawnFin _
  case tryGracefulRestart => exact fun c sig _ _ _ => .frame _ _ (s0.proc (procStep_signalChild s c sig)) rfl
  case continueTGR =>
    intro _ s1 h1
    have h : RF s (if s1.cfg.f4 then { s1 with onEndRestart := none } else s1) := by
      have : RF s s1 := by
        rcases h1 with ⟨-⟩ | ⟨c, -⟩
        · exact s0
        · exact (s0.proc (procStep_killReap s c)).endFlags
      split
      · exact .frame s1 _ this rfl
      · exact this
    exact (h.proc (procStep_reset _)).spawnFin _
  case signal => exact fun c sig _ _ => .raise _ _ (s0.proc (procStep_signalChild s c sig))
  case delete => exact fun _ => .raise _ 0 (.frame (s.raise m.done) _ (.raise s _ s0) rfl)
  case nextEnding => exact fun _ _ => .base _ rfl
  case func => exact fun _ _ => .raise _ _ (.base _ rfl)
  case hook => exact fun _ _ => .raise _ _ (.base _ rfl)
  case err => exact fun _ _ => .raise _ _ (.base _ rfl)

theorem RF.continueRestart {s t : St} (h : RF s t) : RF s t.continueRestart := by
  have h0 : RF s ({ t with onEndRestart := none } : St).reset := (RF.frame t { t with onEndRestart := none } h rfl).proc (procStep_reset _)
  exact continueRestart_cases (P := RF s) t (fun _ => h) (fun f _ => h0.spawnFin f)
    fun _ _ _ => h0.proc ((procStep_spawn _).trans (procStep_errHandler _))

theorem rf_waitBranch (s : St) (c) : RF s (waitBranch s c) := by
  unfold waitBranch
  have h : RF s (s.reap c) := .base _ (by rw [reap_eq]; rfl)
  exact (h.raiseAll _).endFlags.continueRestart

theorem rf_turns {s s' : St} (h : s' ∈ turns s) : RF s s' := by
  have unpark : ∀ t : St, t.wv = s.wv → RF s { t with parked := false } := fun t ht => .base _ ht
  refine turns_cases (P := RF s) s ?wait ?recv ?closed s' h
  case wait => exact fun c _ => (unpark s rfl).trans (rf_waitBranch _ c)
  case recv => exact fun _ m s1 _ ht => (unpark s1 (by cases ht <;> rfl)).trans (rf_handle _ m)
  case closed =>
    intro _
    unfold St.closedEnd
    split
    · exact .raise _ 0 (.base _ rfl)
    · exact .base _ rfl

theorem winv_turns {s : St} (h : WInvS s) : ∀ s' ∈ turns s, WInvS s' :=
  fun _ hs' => winv_rf (rf_turns hs') h

/-- `WInvS` for all waiters but `x`: the state while `x` is polled, before it has re-registered or resolved (`winv_poll`) -/
def WInvX (x : WaiterId) (s : St) : Prop :=
  (s.waiters.map (·.id)).Nodup ∧
  ∀ wt ∈ s.waiters, wt.resolved = false → wt.id ≠ x →
    s.isRaised wt.done = false ∧ s.isRaised 0 = false ∧ (wt.done, wt.id) ∈ s.slots ∧ (0, wt.id) ∈ s.slots

theorem winvx_of {s : St} (x) (h : WInvS s) : WInvX x s := ⟨h.1, fun wt hw hr _ => h.2 wt hw hr⟩

theorem winv_of_x {s : St} {x} (h : WInvX x s)
    (hx : ∀ wt ∈ s.waiters, wt.resolved = false → wt.id = x →
      s.isRaised wt.done = false ∧ s.isRaised 0 = false ∧ (wt.done, wt.id) ∈ s.slots ∧ (0, wt.id) ∈ s.slots) : WInvS s :=
  ⟨h.1, fun wt hw hr => (Decidable.em (wt.id = x)).elim (hx wt hw hr) (h.2 wt hw hr)⟩

theorem winv_resolve {s : St} (w : WaiterId) (h : WInvX w s) : WInvS (s.resolveWaiter w) := by
  obtain ⟨a, b, _, d⟩ := resolveWaiter_wv s w h.1
  refine ⟨by rw [d, map_mark_ids]; exact h.1, fun wt hwt hres => ?_⟩
  rw [d] at hwt
  obtain ⟨hwt, hne⟩ := mem_map_mark hwt hres
  unfold St.isRaised
  rw [a, b]
  exact h.2 wt hwt hres fun he => hne (by simp [he])

theorem register_eq (s : St) (f w) (h35 : s.cfg.f35 = true) : s.register f w = { s with slots := s.slots ++ [(f, w)] } := by
  unfold St.register; rw [if_pos h35]

theorem winvx_mono {x} {s t : St} (hr : t.raised = s.raised) (hw : t.waiters = s.waiters) (hs : ∀ p ∈ s.slots, p ∈ t.slots)
    (h : WInvX x s) : WInvX x t := by
  unfold WInvX St.isRaised at *
  rw [hr, hw]
  refine ⟨h.1, fun wt hwt hres hne => ?_⟩
  obtain ⟨a, b, c, d⟩ := h.2 wt hwt hres hne
  exact ⟨a, b, hs _ c, hs _ d⟩

theorem winv_poll {s : St} (w : WaiterId) (h35 : s.cfg.f35 = true) (h : WInvX w s) : WInvS (pollWaiter s w) := by
  unfold pollWaiter
  split
  · next wt0 hf =>
    obtain ⟨hid, only⟩ := find_id h.1 hf
    split
    · next hr =>
      refine winv_of_x h fun wt hwt hres he => ?_
      rw [only wt hwt he, hr] at hres; cases hres
    · split
      · exact winv_resolve w h
      · next hr0 =>
        simp only [register_eq, h35]
        split
        · exact winv_resolve w (winvx_mono (s := s) rfl rfl (fun p hp => List.mem_append_left _ hp) h)
        · next hrd =>
          -- registered with both flags, neither of them raised: now `w` waits like everybody else
          refine winv_of_x (winvx_mono (s := s) rfl rfl (fun p hp => by simp [hp]) h) fun wt hwt _ he => ?_
          rw [only wt hwt he, hid]
          exact ⟨Bool.eq_false_iff.2 hrd, Bool.eq_false_iff.2 hr0, by simp, by simp⟩
  · next hf => exact winv_of_x h fun wt hwt _ he => absurd he (find_none hf wt hwt)

theorem poll_keeps (s : St) (w) (hn : (s.waiters.map (·.id)).Nodup) (h35 : s.cfg.f35 = true) :
    (pollWaiter s w).cfg.f35 = true ∧ (pollWaiter s w).waiters.map (·.id) = s.waiters.map (·.id) := by
  refine ⟨((waitStep_pollWaiter s w).keep (π := fun s => s.cfg.f35)).trans h35, ?_⟩
  have res : ∀ t : St, t.waiters = s.waiters → (t.resolveWaiter w).waiters.map (·.id) = s.waiters.map (·.id) := by
    intro t ht
    rw [(resolveWaiter_wv t w (ht ▸ hn)).2.2.2, map_mark_ids, ht]
  unfold pollWaiter
  split
  · split
    · rfl
    · split
      · exact res s rfl
      · simp only [register_eq, h35]
        split
        · exact res _ rfl
        · rfl
  · rfl

/-- all ids are below `n` (`nextWaiter`), so a new waiter's id is fresh (`wi_newWaiter`); the bound lives in `Sim`, hence
    a `SimInv2` and not a `SimInv` -/
structure WI (n : Nat) (s : St) : Prop where
  f35 : s.cfg.f35 = true
  inv : WInvS s
  lt : ∀ i ∈ s.waiters.map (·.id), i < n

theorem wi_congr {n} {t s : St} (h : t.wv = s.wv) (hi : WI n s) : WI n t :=
  ⟨(congrArg WV.f35 h).trans hi.f35, winv_congr h hi.inv, by rw [show t.waiters = s.waiters from congrArg WV.waiters h]; exact hi.lt⟩

theorem wi_mono {n m} {s : St} (hnm : n ≤ m) (h : WI n s) : WI m s :=
  ⟨h.f35, h.inv, fun i hi => Nat.lt_of_lt_of_le (h.lt i hi) hnm⟩

theorem wi_raise {n} {s : St} (f : FlagId) (h : WI n s) : WI n (s.raise f) := by
  obtain ⟨_, _, c, d⟩ := raise_wv s f h.inv.1
  exact ⟨by rw [c]; exact h.f35, winv_raise f h.inv, by rw [d, map_mark_ids]; exact h.lt⟩

theorem wi_pollX {n} {s : St} (w) (h35 : s.cfg.f35 = true) (hx : WInvX w s) (hb : ∀ i ∈ s.waiters.map (·.id), i < n) :
    WI n (pollWaiter s w) := by
  obtain ⟨a, b⟩ := poll_keeps s w hx.1 h35
  exact ⟨a, winv_poll w h35 hx, by rw [b]; exact hb⟩

theorem wi_foldl_poll {n} (ws : List WaiterId) {s : St} (h : WI n s) : WI n (ws.foldl pollWaiter s) := by
  induction ws generalizing s with
  | nil => exact h
  | cons w ws ih => exact ih (wi_pollX w h.f35 (winvx_of w h.inv) h.lt)

theorem wi_newWaiter {n} {s : St} (f : FlagId) (h : WI n s) :
    WI (n + 1) (pollWaiter { s with waiters := s.waiters ++ [{ id := n, done := f }] } n) := by
  have ids : ({ s with waiters := s.waiters ++ [{ id := n, done := f }] } : St).waiters.map (·.id) = s.waiters.map (·.id) ++ [n] := by
    simp
  refine wi_pollX n h.f35 ⟨?_, fun wt hwt hres hne => ?_⟩ fun i hi => ?_
  · rw [ids]
    refine List.nodup_append.2 ⟨h.inv.1, by simp, fun a ha b hb => ?_⟩
    rw [List.mem_singleton.1 hb]
    exact Nat.ne_of_lt (h.lt a ha)
  · rcases List.mem_append.1 hwt with hwt | hwt
    · exact h.inv.2 wt hwt hres
    · rw [List.mem_singleton.1 hwt] at hne; exact absurd rfl hne
  · rw [ids] at hi
    rcases List.mem_append.1 hi with hi | hi
    · exact Nat.lt_succ_of_lt (h.lt i hi)
    · rw [List.mem_singleton.1 hi]; exact Nat.lt_succ_self n

def WInv (x : Sim) : Prop := WI x.nextWaiter x.st

theorem winv_simInv : SimInv2 WInv (fun _ _ => True) where
  turns := fun _ h _ hs' => (rf_turns hs').keeps wi_congr wi_raise h
  park := fun x h => wi_congr (s := x.st) (by unfold park; split <;> rfl) h
  drain := fun x h => wi_foldl_poll _ (wi_congr (s := x.st) rfl h)
  now := fun x _ h => wi_congr (s := x.st) rfl h
  close := fun x h => wi_congr (s := x.st) rfl h
  cancel := fun x aw h => wi_mono (Nat.le_succ _) (wi_congr (s := x.st) (by cases aw <;> rfl) h)
  sendOne := fun x p _ _ h => wi_congr (s := x.st) (by cases p <;> rfl) h
  finish := fun x aw h => by
    unfold finishSend
    simp only []
    split
    · exact wi_newWaiter _ h
    · exact wi_mono (Nat.le_succ _) h
  clone := fun x f h => wi_newWaiter f h

/-- **C07 (tickets)** — with a flag keeping every registered waker (repair F3/F5) and whatever the
    other repairs: in every state of every run, a ticket that has not resolved is waiting on a flag that
    is not raised, the job is not gone, and its waker is registered with both — so the moment either
    flag is raised it resolves. Equivalently: raised flag or gone job ⇒ resolved. -/
theorem c07_tickets (cfg : Fixes) (h35 : cfg.f35 = true) (behs : List Beh) (ops : List Op) :
    ∀ y ∈ runOps { st := { cfg := cfg, behs := behs, hookSet := true, parked := true } } ops,
      ∀ wt ∈ y.st.waiters, (y.st.isRaised wt.done = true ∨ y.st.isRaised 0 = true) → wt.resolved = true := by
  intro y hy wt hwt hr
  have h0 : WInv { st := { cfg := cfg, behs := behs, hookSet := true, parked := true } } :=
    ⟨h35, ⟨by simp, by intro wt hwt; simp at hwt⟩, by intro i hi; simp at hi⟩
  have := winv_simInv.runOps ops (fun o _ => (opOkFor_true o).two) h0 y hy
  cases hres : wt.resolved with
  | true => rfl
  | false =>
    obtain ⟨a, b, _, _⟩ := this.inv.2 wt hwt hres
    rcases hr with hr | hr
    · rw [a] at hr; cases hr
    · rw [b] at hr; cases hr

#print axioms c07_tickets

/-- unrepaired (single waker slot): a wait-for-end ticket on a never-started job, then `delete` with its own
    ticket — the second registration on `gone` overwrites the first, the job goes, the first ticket hangs -/
theorem c07_tickets_fails_today :
    ∃ y ∈ runOps { st := { behs := [.ignores], hookSet := true, parked := true } }
        [.send .high [.nextEnding] true, .send .normal [.delete] true, .settle],
      ∃ wt ∈ y.st.waiters, y.st.isRaised 0 = true ∧ wt.resolved = false := by decide

end Jm
