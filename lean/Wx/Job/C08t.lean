import Wx.Job.C07
import Wx.Job.C10
/-! C08, the time bound as a theorem: a job with a queued `Delete` is gone no later than its *deadline* — the expiry of
    the grace timer that is armed now, plus the grace periods of the graceful controls still queued. Time is the model's
    virtual clock; it passes only while the task is idle and never beyond an armed timer (`SimInv3.tick`, as in `advanceAll`).
    `deadline` never grows in a turn: `recv` takes the control's grace period out of `queued` (`take_deadline`), `handle`
    adds at most that much to `base` (`base_handle`), the wait branch drops `base` to `now`; only the clock could pass it,
    and an idle task with a queued control has an armed timer ahead of the clock (`idle_timer`). -/
namespace Jm

/-- what the time bounds read: `alive`, the queues, the timer, the clock (and the repair flags) -/
def St.clock (s : St) : Bool × Fixes × List Msg × List Msg × List Msg × Option Timer × Nat :=
  (s.alive, s.cfg, s.normal, s.high, s.urgent, s.timer, s.now)

def graceOf : Ctl → Nat
  | .gracefulStop _ g => g
  | .tryGracefulRestart _ g => g
  | _ => 0

def gsum (l : List Msg) : Nat := (l.map (fun m => graceOf m.ctl)).sum
def queued (s : St) : Nat := gsum s.normal + gsum s.high + gsum s.urgent
def base (s : St) : Nat := match s.timer with | some tm => max s.now tm.until_ | none => s.now
/-- the armed timer's expiry (or now), plus every grace period still queued -/
def deadline (s : St) : Nat := base s + queued s

theorem now_le_base (s : St) : s.now ≤ base s := by
  unfold base; split
  · exact Nat.le_max_left _ _
  · exact Nat.le_refl _

def hasDelete (s : St) : Prop := ∃ m ∈ s.normal, m.ctl = .delete

/-- an alive job with a queued `Delete` is within its deadline `D` -/
def Bd (D : Nat) (s : St) : Prop := s.alive = true → hasDelete s ∧ deadline s ≤ D

theorem gsum_cons (m : Msg) (r : List Msg) : gsum (m :: r) = graceOf m.ctl + gsum r := by simp [gsum]
theorem gsum_append (a b : List Msg) : gsum (a ++ b) = gsum a + gsum b := by simp [gsum]

theorem Bd.congr {D : Nat} {t s : St} (h : Bd D s) (hc : t.clock = s.clock) : Bd D t := by
  simp only [St.clock, Prod.mk.injEq] at hc
  obtain ⟨ha, -, hn, hh, hu, htm, hnow⟩ := hc
  unfold Bd hasDelete deadline base queued at *
  rw [ha, hn, hh, hu, htm, hnow]; exact h

theorem idle_timer {s : St} (hcfg : s.cfg = Fixes.all) (hal : s.alive = true) (hne : s.normal ≠ []) (hidle : turns s = []) :
    ∃ tm, s.timer = some tm ∧ s.now < tm.until_ := by
  have hf7 : s.cfg.f7 = true := by rw [hcfg]; rfl
  -- otherwise the biased receive has a non-empty source to take from
  have busy : ∀ src, src ∈ recvCandidates s → (takeFrom s src).isSome = true → False :=
    fun src h1 h2 => turns_ne_nil hal h1 h2 hidle
  cases htm : s.timer with
  | none =>
    exfalso
    cases hu : s.urgent with
    | cons a l => exact busy .urgent (by simp [recvCandidates_biased hf7, htm, hu]) (by simp [takeFrom, hu])
    | nil =>
      cases hh : s.high with
      | cons a l => exact busy .high (by simp [recvCandidates_biased hf7, htm, hu, hh]) (by simp [takeFrom, hh])
      | nil =>
        cases hn : s.normal with
        | cons a l => exact busy .normal (by simp [recvCandidates_biased hf7, htm, hu, hh, hn]) (by simp [takeFrom, hn])
        | nil => exact hne hn
  | some tm =>
    refine ⟨tm, rfl, Nat.lt_of_not_le fun hle => ?_⟩
    exact busy .timer (by simp [recvCandidates_biased hf7, htm, hle]) (by simp [takeFrom, htm])

theorem base_handle (s : St) (m : Msg) : base (handle s m) ≤ base s + graceOf m.ctl := by
  have hnow : (handle s m).now = s.now := (taskStep_handle s m).keep
  have hb := now_le_base s
  unfold base at hb ⊢
  rcases handle_timer s m with h | ⟨c, sig, g, r, -, hm, h⟩
  · rw [h, hnow]; split <;> omega
  · have hg : graceOf m.ctl = g := by rw [hm]; cases r <;> rfl
    rw [h, hnow, hg]
    simp only []
    omega

theorem take_deadline {s s1 : St} {src : Src} {m : Msg} (ht : Take s src m s1) (hsrc : src ∈ recvCandidates s) :
    s1.alive = s.alive ∧ s1.now = s.now ∧ base s1 + graceOf m.ctl + queued s1 ≤ base s + queued s ∧
    (hasDelete s → m.ctl ≠ .delete → hasDelete s1) := by
  cases ht with
  | timer tm htm =>
    obtain ⟨tm', htm', hle⟩ := timer_cand hsrc
    rw [htm] at htm'; cases htm'
    refine ⟨rfl, rfl, ?_, fun h _ => h⟩
    have hg : graceOf (if tm.isRestart = true then Ctl.continueTGR else Ctl.stop) = 0 := by split <;> rfl
    have hb := now_le_base s
    rw [show base ({ s with timer := none } : St) = s.now from rfl, show queued ({ s with timer := none } : St) = queued s from rfl, hg]
    omega
  | urgent m r hq => exact ⟨rfl, rfl, by simp only [base, queued, hq, gsum_cons]; omega, fun h _ => h⟩
  | high m r hq => exact ⟨rfl, rfl, by simp only [base, queued, hq, gsum_cons]; omega, fun h _ => h⟩
  | normal m r hq =>
    refine ⟨rfl, rfl, by simp only [base, queued, hq, gsum_cons]; omega, ?_⟩
    intro ⟨d, hd, hdc⟩ hne
    rw [hq] at hd
    rcases List.mem_cons.1 hd with rfl | hd
    · exact absurd hdc hne
    · exact ⟨d, hd, hdc⟩

theorem bd_turns {D : Nat} {s : St} (h : Bd D s) : ∀ s' ∈ turns s, Bd D s' := by
  refine turns_cases s ?wait ?recv ?closed
  case closed => exact fun _ hal => by rw [closedEnd_alive] at hal; cases hal
  case wait =>
    -- the wait branch erases the timer: the base falls back to now
    intro c _ hal
    rw [waitBranch_alive] at hal
    obtain ⟨⟨d, h1, h2⟩, hle⟩ := h hal
    obtain ⟨hn, hh, hu⟩ := qv_queues (waitBranch_qv { s with parked := false } c)
    have hnow : (waitBranch { s with parked := false } c).now = s.now := (taskStep_waitBranch _ c).keep
    refine ⟨⟨d, hn.symm ▸ h1, h2⟩, ?_⟩
    have hb := now_le_base s
    have : deadline (waitBranch { s with parked := false } c) = s.now + queued s := by
      unfold deadline base queued
      rw [waitBranch_timer, hnow, hn, hh, hu]
    unfold deadline at hle
    omega
  case recv =>
    intro src m s1 hsrc ht
    obtain ⟨hal1, -, hdl, hdel⟩ := take_deadline ht hsrc
    intro hal
    have hmd : m.ctl ≠ .delete := fun hc => by rw [(handle_alive _ m).1 hc] at hal; cases hal
    rw [(handle_alive _ m).2 hmd] at hal
    obtain ⟨hd, hle⟩ := h (hal1 ▸ hal)
    obtain ⟨hn, hh, hu⟩ := qv_queues (handle_qv { s1 with parked := false } m)
    obtain ⟨d, h1, h2⟩ := hdel hd hmd
    refine ⟨⟨d, hn.symm ▸ h1, h2⟩, ?_⟩
    have hb := base_handle { s1 with parked := false } m
    have hqd : queued (handle { s1 with parked := false } m) = queued s1 := by
      unfold queued; rw [hn, hh, hu]
    have e1 : base ({ s1 with parked := false } : St) = base s1 := rfl
    unfold deadline at hle ⊢
    omega

def NoGrace (_ : Prio) (c : Ctl) : Prop := graceOf c = 0

theorem deadline_simInv (D : Nat) : SimInv3 (fun x => x.st.cfg = Fixes.all ∧ Bd D x.st) NoGrace := by
  refine simInv3_ofView St.clock (J := fun s => s.cfg = Fixes.all ∧ Bd D s)
    (fun hc h => ⟨(congrArg (·.2.1) hc).trans h.1, h.2.congr hc⟩)
    (fun s h s' hs' => ⟨(turns_cfg s' hs').trans h.1, bd_turns h.2 s' hs'⟩) ?tick ?enqueue
  case tick =>
    -- the clock only moves while the task waits for an armed timer, and not beyond it
    intro s t h hidle hle
    refine ⟨h.1, fun hal => ?_⟩
    obtain ⟨⟨d, h1, h2⟩, hdl⟩ := h.2 hal
    obtain ⟨tm, htm, hlt⟩ := idle_timer h.1 hal (List.ne_nil_of_mem h1) hidle
    refine ⟨⟨d, h1, h2⟩, ?_⟩
    have ht := hle tm htm hlt
    have e1 : deadline ({ s with now := t } : St) = max t tm.until_ + queued s := by
      unfold deadline base queued; simp only [htm]
    have e2 : deadline s = max s.now tm.until_ + queued s := by
      unfold deadline base; simp only [htm]
    rw [e1]; rw [e2] at hdl
    omega
  case enqueue =>
    intro s p m hg h
    refine ⟨by cases p <;> exact h.1, fun hal => ?_⟩
    obtain ⟨⟨d, h1, h2⟩, hdl⟩ := h.2 (by cases p <;> exact hal)
    refine ⟨⟨d, by cases p <;> simp [enqueue, h1], h2⟩, ?_⟩
    have : deadline (enqueue s p m) = deadline s := by
      cases p <;> simp [deadline, base, queued, enqueue, gsum, show graceOf m.ctl = 0 from hg]
    rw [this]; exact hdl

/-- **C08, the time bound** — take ANY state of the repaired job task in which a `Delete` is queued (as the worker's quit
    leaves it). Whatever happens afterwards — every race resolution, any passage of time, any further sends that carry no
    grace period, handle drops — whenever the job task is still alive the clock has not passed the deadline computed at
    that state: the expiry of the timer armed then (or then), plus the grace periods of the graceful controls queued then. -/
theorem c08_deadline (x : Sim) (hcfg : x.st.cfg = Fixes.all) (hd : hasDelete x.st) (ops : List Op)
    (hops : ∀ o ∈ ops, OpOkFor2 NoGrace o) :
    ∀ y ∈ runOps x ops, y.st.alive = true → y.st.now ≤ deadline x.st := by
  intro y hy hal
  have h0 : Bd (deadline x.st) x.st := fun _ => ⟨hd, Nat.le_refl _⟩
  obtain ⟨_, hb⟩ := (deadline_simInv (deadline x.st)).runOps ops hops (x := x) ⟨hcfg, h0⟩ y hy
  have h2 : base y.st + queued y.st ≤ deadline x.st := (hb hal).2
  have h1 := now_le_base y.st
  omega

/-- the worker's quit: `stop_with_signal(sig, g)` then `delete()` = GracefulStop, then Stop + Delete, all at normal priority -/
theorem quit_deadline (x : Sim) (sig : Sig) (g : Nat) (hgone : x.st.isRaised 0 = false) :
    deadline (doSend (doSend x .normal [.gracefulStop sig g] false) .normal [.stop, .delete] false).st = deadline x.st + g ∧
    hasDelete (doSend (doSend x .normal [.gracefulStop sig g] false) .normal [.stop, .delete] false).st ∧
    (doSend (doSend x .normal [.gracefulStop sig g] false) .normal [.stop, .delete] false).st.cfg = x.st.cfg := by
  have e1 : doSend x .normal [.gracefulStop sig g] false =
      { st := enqueue x.st .normal ⟨.gracefulStop sig g, x.nextFlag⟩, nextFlag := x.nextFlag + 1, nextWaiter := x.nextWaiter + 1 } := by
    rw [doSend_eq]; simp [hgone, finishSend, sendOne]
  have hgone2 : (enqueue x.st .normal ⟨.gracefulStop sig g, x.nextFlag⟩).isRaised 0 = false := hgone
  rw [e1, doSend_eq]
  simp only [hgone2, Bool.false_or, List.isEmpty_cons, Bool.false_eq_true, if_false, List.foldl_cons, List.foldl_nil,
    finishSend, sendOne]
  refine ⟨?_, ⟨⟨.delete, x.nextFlag + 1 + 1⟩, by simp [enqueue], rfl⟩, rfl⟩
  simp [deadline, base, queued, gsum, graceOf, enqueue]
  omega

/-- **the quit, per job**: from any state of a live job (gone flag not raised), after the worker's quit sequence the job
    task is gone whenever the clock shows more than the deadline at the quit plus the quit's own grace period -/
theorem c08_quit_bound (x : Sim) (hcfg : x.st.cfg = Fixes.all) (hgone : x.st.isRaised 0 = false) (sig : Sig) (g : Nat)
    (ops : List Op) (hops : ∀ o ∈ ops, OpOkFor2 NoGrace o) :
    ∀ y ∈ runOps (doSend (doSend x .normal [.gracefulStop sig g] false) .normal [.stop, .delete] false) ops,
      deadline x.st + g < y.st.now → y.st.alive = false := by
  intro y hy hlt
  obtain ⟨e1, e2, e3⟩ := quit_deadline x sig g hgone
  have := c08_deadline _ (e3.trans hcfg) e2 ops hops y hy
  cases hal : y.st.alive with
  | false => rfl
  | true => have := this hal; omega

/-- non-vacuity: a child that ignores the signal, a graceful restart (grace 70) armed at 0, the quit (grace 40) at 20:
    deadline 70 + 40 = 110, and that is exactly when the job ends -/
example : ((runOps { st := { cfg := Fixes.all, behs := [.ignores, .ignores], hookSet := true, parked := true } }
        [.send .normal [.start] false, .settle, .send .normal [.tryGracefulRestart 15 70] false, .advance 20]).flatMap (fun x =>
      runOps (doSend (doSend x .normal [.gracefulStop 15 40] false) .normal [.stop, .delete] false) [.advance 500])).map
    (fun y => (y.st.alive, y.st.log.filterMap (fun e => match e.2 with | .ended => some e.1 | _ => none))) = [(false, [110])] := by decide

#print axioms c08_quit_bound
#print axioms c08_deadline
#print axioms quit_deadline
end Jm
