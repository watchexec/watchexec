import Wx.Job.Api
import Wx.Cli.Action
import Wx.Pure.Gen.Shapes
/-! The hand-written models mirror these enums of the source; the variant lists are regenerated on every run. A variant
    added, removed or renamed in the code — a control the job-task model does not handle, a new on-busy mode — breaks a
    theorem here (and nothing else). -/
namespace Jm

/-- one representative of every control the model knows -/
def allCtls : List Ctl :=
  [.start, .stop, .gracefulStop 15 0, .tryRestart, .tryGracefulRestart 15 0, .continueTGR, .signal 15, .delete, .nextEnding,
   .func 0, .setHook, .unsetHook, .setErr, .unsetErr]

/-- the async twins are modelled by their sync counterparts (same effect on the job's state) -/
def asyncTwins : List (String × String) :=
  [("AsyncFunc", "SyncFunc"), ("SetAsyncSpawnHook", "SetSyncSpawnHook"), ("SetAsyncErrorHandler", "SetSyncErrorHandler")]

/-- **every `Control` variant of the code is handled by the model**, directly or through its sync twin -/
theorem every_control_is_modelled :
    ∀ v ∈ Gen.controlVariants, v ∈ allCtls.map ctlName ∨ ∃ p ∈ asyncTwins, p.1 = v ∧ p.2 ∈ allCtls.map ctlName := by decide +kernel

theorem every_model_control_exists : ∀ c ∈ allCtls, ctlName c ∈ Gen.controlVariants := by decide +kernel

theorem allCtls_complete (c : Ctl) : ctlName c ∈ allCtls.map ctlName := by cases c <;> simp [ctlName, allCtls]

theorem priorities_are_the_models : Gen.priorityVariants = [prioName .normal, prioName .high, prioName .urgent] := rfl

theorem command_states_are_the_models : Gen.commandStateVariants = ["Pending", "Running", "Finished"] := rfl

theorem on_busy_modes_are_the_models : Gen.onBusyVariants = ["Queue", "DoNothing", "Restart", "Signal"] := rfl
theorem cli_defaults_are_the_models :
    Gen.onBusyDefault = "do-nothing" ∧ ({} : Ca.Cfg).mode = .doNothing ∧ Gen.stopTimeoutDefault = "10s" ∧ ({} : Ca.Cfg).stopTimeout = 10000 := ⟨rfl, rfl, rfl, rfl⟩

theorem process_ends_are_the_models : Gen.processEndVariants = ["Success", "ExitError", "ExitSignal", "ExitStop", "Exception", "Continued"] := rfl

end Jm
