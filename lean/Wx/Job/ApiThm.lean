import Wx.Job.Api
/-! the API table of the model against the generated one -/
namespace Jm

/-- the call with its parameters zeroed: none of the API tables looks at them -/
def ApiCall.bare : ApiCall → ApiCall
  | .stopWithSignal .. => .stopWithSignal 0 0 | .restartWithSignal .. => .restartWithSignal 0 0
  | .tryRestartWithSignal .. => .tryRestartWithSignal 0 0 | .signal _ => .signal 0 | .run _ => .run 0 | .runAsync _ => .runAsync 0
  | c => c

def bareCalls : List ApiCall :=
  [.start, .stop, .stopWithSignal 0 0, .restart, .restartWithSignal 0 0, .tryRestart, .tryRestartWithSignal 0 0, .signal 0,
   .toWait, .delete, .deleteNow, .run 0, .setErrorHandler, .unsetErrorHandler, .setSpawnHook, .unsetSpawnHook,
   .runAsync 0, .setAsyncErrorHandler, .setSpawnAsyncHook]

theorem api_generated_bare : ∀ c ∈ bareCalls,
    lookupApi (methodName c) = some (prioName (apiOf c).1, (apiOf c).2.map (if isAsync c then asyncName else ctlName)) := by
  decide +kernel

/-- **the model's API table is the code's** -/
theorem api_generated (c : ApiCall) :
    lookupApi (methodName c) = some (prioName (apiOf c).1, (apiOf c).2.map (if isAsync c then asyncName else ctlName)) := by
  -- `decide` does not take the open term `c.bare`; `elem` evaluates once `c` is a constructor
  have h := api_generated_bare c.bare (by cases c <;> exact List.mem_of_elem_eq_true rfl)
  -- both sides name the same strings for `c` and `c.bare`
  cases c <;> exact h

/-- the documented priorities (rustdoc of `Job`): wait-for-end is high, delete-now urgent, everything else normal;
    restart = Stop then Start; delete = Stop then Delete -/
def apiDoc : List (String × String × List String) := [
  ("start", "Normal", ["Start"]), ("stop", "Normal", ["Stop"]), ("stop_with_signal", "Normal", ["GracefulStop"]),
  ("restart", "Normal", ["Stop", "Start"]), ("restart_with_signal", "Normal", ["GracefulStop", "Start"]),
  ("try_restart", "Normal", ["TryRestart"]), ("try_restart_with_signal", "Normal", ["TryGracefulRestart"]),
  ("signal", "Normal", ["Signal"]), ("delete", "Normal", ["Stop", "Delete"]), ("delete_now", "Urgent", ["Stop", "Delete"]),
  ("to_wait", "High", ["NextEnding"]), ("run", "Normal", ["SyncFunc"]), ("run_async", "Normal", ["AsyncFunc"]),
  ("set_spawn_hook", "Normal", ["SetSyncSpawnHook"]), ("set_spawn_async_hook", "Normal", ["SetAsyncSpawnHook"]),
  ("unset_spawn_hook", "Normal", ["UnsetSpawnHook"]), ("set_error_handler", "Normal", ["SetSyncErrorHandler"]),
  ("set_async_error_handler", "Normal", ["SetAsyncErrorHandler"]), ("unset_error_handler", "Normal", ["UnsetErrorHandler"])]

theorem jobApi_documented : Gen.jobApi = apiDoc := rfl

/-- the urgent half of `ShapeOk`, which `c07_noLost` asks of a script -/
theorem api_shapes (c : ApiCall) : (apiOf c).1 = .urgent → (apiOf c).2 = [.stop, .delete] := by
  cases c <;> simp [apiOf]

#print axioms api_generated
end Jm
