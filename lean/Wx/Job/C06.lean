import Wx.Job.C10
import Wx.Job.C04
import Wx.Job.C07
/-! C06 step facts on the job model, with `c10_priority` for the hold-back and the timer that is never early; `Props.C06`
    composes them with `c07_noLost`'s `Coupled` (the restart slot lives exactly as long as its timer). -/
namespace Jm

theorem signalChild_eq (s : St) (c sig) :
    s.signalChild c sig = { s with children := (s.signalChild c sig).children, log := (s.now, .signal c sig) :: s.log } := by
  unfold St.signalChild; simp only []; split
  · split <;> rfl
  · rfl

theorem signalChild_log (s : St) (c sig) : (s.signalChild c sig).log = (s.now, .signal c sig) :: s.log := by
  rw [signalChild_eq]

theorem graceful_stop_step (s : St) (c : ChildId) (sig : Sig) (grace : Nat) (f : FlagId)
    (h : s.cs = .running c) :
    handle s ⟨.gracefulStop sig grace, f⟩ =
      { s.signalChild c sig with timer := some ⟨s.now + grace, f, false⟩ } := by
  simp only [handle, h, signalChild_now]

theorem graceful_restart_step (s : St) (c : ChildId) (sig : Sig) (grace : Nat) (f : FlagId)
    (h : s.cs = .running c) :
    handle s ⟨.tryGracefulRestart sig grace, f⟩ =
      { s.signalChild c sig with timer := some ⟨s.now + grace, f, true⟩, onEndRestart := some f } := by
  simp only [handle, h, signalChild_now]

theorem timer_fires (s : St) (t : Timer) (hf7 : s.cfg.f7 = true) (ht : s.timer = some t) (he : t.until_ ≤ s.now) :
    recvCandidates s = [.timer] := by
  rw [recvCandidates_biased hf7, ht]
  exact if_pos he

theorem timer_not_early (s : St) (t : Timer) (hf7 : s.cfg.f7 = true) (ht : s.timer = some t) (he : s.now < t.until_) :
    Src.timer ∉ recvCandidates s := by
  intro h
  obtain ⟨t', ht', he'⟩ := c10_priority hf7 h
  cases ht.symm.trans ht'
  omega

theorem held_back (s : St) (t : Timer) (hf7 : s.cfg.f7 = true) (ht : s.timer = some t) :
    Src.normal ∉ recvCandidates s := by
  intro h
  cases ht.symm.trans (c10_priority hf7 h).1

theorem killReap_eq {s : St} {c} {ch : Child} (h : s.child? c = some ch) :
    s.killReap c = ({ (s.emit (.kill c)).setChild { ch with exitAt := some s.now, status := 9, reaped := true } with
                      cs := .finished 9 }).emit (.reaped c 9) := by
  unfold St.killReap
  simp only [show (s.emit (.kill c)).child? c = some ch from h]
  rfl

theorem killReap_log (s : St) (c) (ch) (h : s.child? c = some ch) :
    (s.killReap c).log = (s.now, .reaped c 9) :: (s.now, .kill c) :: s.log ∧ (s.killReap c).cs = .finished 9 := by
  rw [killReap_eq h]
  exact ⟨rfl, rfl⟩

theorem expiry_kills (s : St) (t : Timer) (c : ChildId) (ch : Child) (ht : s.timer = some t) (hr : t.isRestart = false)
    (hc : s.cs = .running c) (hch : s.child? c = some ch) :
    ∃ s1, takeFrom s .timer = some (⟨.stop, t.done⟩, s1) ∧ s1.timer = none ∧
      (handle s1 ⟨.stop, t.done⟩).cs = .finished 9 ∧ (handle s1 ⟨.stop, t.done⟩).isRaised t.done = true := by
  refine ⟨{ s with timer := none }, by simp [takeFrom, ht, hr], rfl, ?_⟩
  have e : handle { s with timer := none } ⟨.stop, t.done⟩ = (({ s with timer := none } : St).killReap c).endFlags.raise t.done := by
    simp only [handle, hc]
  rw [e]
  constructor
  · rw [(flagStep_raise _ _).cs, endFlags_cs]
    exact (killReap_log { s with timer := none } c ch hch).2
  · rw [raise_raised]; simp

/-- repair F4: the later natural exit of the replacement then starts no further one -/
theorem continue_clears (s : St) (f : FlagId) (hf4 : s.cfg.f4 = true) :
    (handle s ⟨.continueTGR, f⟩).onEndRestart = none := by
  have key : ∀ s0 : St, TaskStep s s0 →
      ((if s0.cfg.f4 then { s0 with onEndRestart := none } else s0).reset.spawnFin f).onEndRestart = none := by
    intro s0 h0
    rw [show s0.cfg = s.cfg from h0.keep, if_pos hf4]
    exact (spawnFin_keep _ f).trans (procStep_reset _).keep
  unfold handle
  simp only []
  cases s.cs with
  | running c => exact key _ ((procStep_killReap s c).task.trans (taskStep_endFlags _))
  | pending => exact key s (.refl s)
  | finished st => exact key s (.refl s)

/-- unrepaired: graceful restart whose grace expires, then the replacement exits by itself — a third
    process is started (F4) -/
theorem extra_respawn_today :
    (runOps { st := { behs := [.ignores, .exitsAfter 50, .ignores], hookSet := false, parked := true } }
      [.send .normal [.start] false, .settle, .send .normal [.tryGracefulRestart 15 10] false, .advance 100]).map
      (fun x => x.st.spawnCount) = [3] := by decide

theorem no_extra_respawn_fixed :
    (runOps { st := { cfg := Fixes.all, behs := [.ignores, .exitsAfter 50, .ignores], hookSet := false, parked := true } }
      [.send .normal [.start] false, .settle, .send .normal [.tryGracefulRestart 15 10] false, .advance 100]).map
      (fun x => x.st.spawnCount) = [2] := by decide

end Jm
