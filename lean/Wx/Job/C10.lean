import Wx.Job.SimInduct
/-! C10: FIFO within a priority (exactly once), urgent before high before normal. -/
namespace Jm

/-- what the ordering statements read -/
structure QV where
  normal : List Msg
  high : List Msg
  urgent : List Msg
  sent : List (Src × FlagId)
  taken : List (Src × FlagId)
  deriving DecidableEq

def St.qv (s : St) : QV := ⟨s.normal, s.high, s.urgent, s.sent, s.taken⟩

theorem qv_withTask (s t : St) : (s.withTask t).qv = s.qv := rfl

theorem handle_qv (s : St) (m : Msg) : (handle s m).qv = s.qv := (taskStep_handle s m).keep qv_withTask

theorem waitBranch_qv (s : St) (c) : (waitBranch s c).qv = s.qv := (taskStep_waitBranch s c).keep qv_withTask

theorem qv_queues {t s : St} (h : t.qv = s.qv) : t.normal = s.normal ∧ t.high = s.high ∧ t.urgent = s.urgent :=
  ⟨congrArg QV.normal h, congrArg QV.high h, congrArg QV.urgent h⟩

@[simp] theorem setChild_normal (s : St) (ch) : (s.setChild ch).normal = s.normal := rfl
@[simp] theorem setChild_high (s : St) (ch) : (s.setChild ch).high = s.high := rfl
@[simp] theorem setChild_urgent (s : St) (ch) : (s.setChild ch).urgent = s.urgent := rfl
@[simp] theorem setChild_sent (s : St) (ch) : (s.setChild ch).sent = s.sent := rfl
@[simp] theorem setChild_taken (s : St) (ch) : (s.setChild ch).taken = s.taken := rfl
@[simp] theorem raiseAll_normal (s : St) (fs) : (s.raiseAll fs).normal = s.normal := (flagStep_raiseAll s fs).keep
@[simp] theorem raiseAll_high (s : St) (fs) : (s.raiseAll fs).high = s.high := (flagStep_raiseAll s fs).keep
@[simp] theorem raiseAll_urgent (s : St) (fs) : (s.raiseAll fs).urgent = s.urgent := (flagStep_raiseAll s fs).keep
@[simp] theorem raiseAll_sent (s : St) (fs) : (s.raiseAll fs).sent = s.sent := (flagStep_raiseAll s fs).keep
@[simp] theorem raiseAll_taken (s : St) (fs) : (s.raiseAll fs).taken = s.taken := (flagStep_raiseAll s fs).keep
@[simp] theorem reap_normal (s : St) (c) : (s.reap c).normal = s.normal := by rw [reap_eq]; rfl
@[simp] theorem reap_high (s : St) (c) : (s.reap c).high = s.high := by rw [reap_eq]; rfl
@[simp] theorem reap_urgent (s : St) (c) : (s.reap c).urgent = s.urgent := by rw [reap_eq]; rfl
@[simp] theorem reap_sent (s : St) (c) : (s.reap c).sent = s.sent := by rw [reap_eq]; rfl
@[simp] theorem reap_taken (s : St) (c) : (s.reap c).taken = s.taken := by rw [reap_eq]; rfl

def QV.ids (v : QV) : Src → List FlagId
  | .normal => v.normal.map (·.done) | .high => v.high.map (·.done) | .urgent => v.urgent.map (·.done) | .timer => []

def proj (l : List (Src × FlagId)) (q : Src) : List FlagId := (l.filter (·.1 == q)).map (·.2)

/-- per queue: what `recv` has returned so far, followed by what is still queued, is what was sent,
    in send order — nothing lost, duplicated or reordered -/
def QV.Fifo (v : QV) : Prop := ∀ q, q ≠ .timer → proj v.taken q ++ v.ids q = proj v.sent q
def Fifo (s : St) : Prop := s.qv.Fifo

theorem fifo_congr {t s : St} (h : t.qv = s.qv) (hf : Fifo s) : Fifo t := by unfold Fifo; rw [h]; exact hf

theorem proj_append (l : List (Src × FlagId)) (a : Src) (d : FlagId) (q : Src) :
    proj (l ++ [(a, d)]) q = proj l q ++ (if a = q then [d] else []) := by
  unfold proj
  by_cases h : a = q
  · subst h; simp
  · simp [h]

theorem fifo_take {s s1 : St} {src m} (h : Fifo s) (ht : Take s src m s1) : Fifo s1 := by
  cases ht
  case timer => exact fifo_congr rfl h
  all_goals
    next hq =>
    intro q hq'
    have := h q hq'
    simp only [St.qv, QV.ids] at this ⊢
    rw [proj_append]
    cases q <;> simp_all

def Prio.src : Prio → Src | .normal => .normal | .high => .high | .urgent => .urgent

theorem fifo_enqueue {s : St} (p : Prio) (m : Msg) (h : Fifo s) : Fifo (enqueue s p m) := by
  have sent : (enqueue s p m).sent = s.sent ++ [(p.src, m.done)] := by cases p <;> rfl
  have taken : (enqueue s p m).taken = s.taken := by cases p <;> rfl
  have ids : ∀ q, (enqueue s p m).qv.ids q = s.qv.ids q ++ (if p.src = q then [m.done] else []) := by
    intro q; cases p <;> cases q <;> simp [enqueue, St.qv, QV.ids, Prio.src]
  intro q hq
  show proj (enqueue s p m).taken q ++ (enqueue s p m).qv.ids q = proj (enqueue s p m).sent q
  rw [taken, ids, sent, proj_append, ← List.append_assoc]
  exact congrArg (· ++ _) (h q hq)

theorem fifo_turns {s : St} (h : Fifo s) : ∀ s' ∈ turns s, Fifo s' := by
  refine turns_cases s ?wait ?recv ?closed
  case wait => exact fun _ _ => fifo_congr (waitBranch_qv _ _) (fifo_congr (s := s) rfl h)
  case recv => exact fun _ _ s1 _ ht => fifo_congr (handle_qv _ _) (fifo_congr (s := s1) rfl (fifo_take h ht))
  case closed => exact fun _ => fifo_congr ((taskStep_closedEnd s).keep qv_withTask) h

theorem qv_withWait (s t : St) : (s.withWait t).qv = s.qv := rfl

theorem fifo_simInv : SimInv Fifo (fun _ _ => True) :=
  .ofView St.qv fifo_congr (fun _ h => fifo_turns h) (fun _ p m _ h => fifo_enqueue p m h)

theorem fifo_init (cfg : Fixes) (behs : List Beh) : Fifo { cfg := cfg, behs := behs, hookSet := true, parked := true } := by
  intro q _; cases q <;> simp [St.qv, proj, QV.ids]

/-- **C10 (order within a priority, exactly once)** — for every fix configuration (so also for the
    code as it is), every script, child behaviour and race resolution. -/
theorem c10_fifo (cfg : Fixes) (behs : List Beh) (ops : List Op) :
    ∀ y ∈ runOps { st := { cfg := cfg, behs := behs, hookSet := true, parked := true } } ops, Fifo y.st :=
  fifo_simInv.runOps ops (fun o _ => opOkFor_true o) (fifo_init cfg behs)

/-- **C10 (priorities)** — with the biased receive (repair F7): a normal control is returned only
    when no grace timer is armed and no urgent or high control is pending; a high one only when no
    urgent one is pending; the timer's own message only once the grace period is over. -/
theorem c10_priority {s : St} (hf7 : s.cfg.f7 = true) {src : Src} (h : src ∈ recvCandidates s) :
    match src with
    | .normal => s.timer = none ∧ s.urgent = [] ∧ s.high = []
    | .high => s.urgent = []
    | .urgent => True
    | .timer => ∃ t, s.timer = some t ∧ t.until_ ≤ s.now := by
  -- read off the `try_recv` order case by case: armed timer or not, then the emptiness tests
  rw [recvCandidates_biased hf7] at h
  cases htm : s.timer <;> simp only [htm] at h <;> (repeat' split at h) <;>
    simp only [List.mem_singleton, List.not_mem_nil] at h <;> subst h <;> simp_all

/-- unrepaired (unbiased final select): a parked task with both a normal and an urgent control pending
    may return the normal one first -/
theorem c10_priority_fails_today :
    ∃ s : St, s.cfg = Fixes.none ∧ s.urgent ≠ [] ∧ Src.normal ∈ recvCandidates s :=
  ⟨{ parked := true, normal := [⟨.start, 1⟩], urgent := [⟨.delete, 2⟩] }, rfl, by simp, by decide⟩

#print axioms c10_fifo
#print axioms c10_priority
end Jm
