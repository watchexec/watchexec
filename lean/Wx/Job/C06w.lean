import Wx.Job.C09c
/-! C06, whole run: as long as no forceful stop / restart is sent, every `kill` in the log is preceded — by at least the
    grace period — by a signal to the same child. What a step appends to the log is read off the documented machine, not
    the model: by C09's refinement the appended effects are `(specStep …).2.1` (`new_eq`), so "a new kill" is a case split
    on `specStep` (`kill_in_spec`). That is why the invariant is `RunInv ∧ Grace`. -/
namespace Jm

/-- the log only grows, and what a step appends is stamped with the step's time -/
structure Ext (t s : St) : Prop where
  now : t.now = s.now
  log : ∃ new, t.log = new ++ s.log ∧ ∀ e ∈ new, e.1 = s.now

theorem Ext.refl (s : St) : Ext s s := ⟨rfl, [], rfl, by simp⟩
theorem Ext.trans {a b c : St} (h1 : Ext a b) (h2 : Ext b c) : Ext a c := by
  obtain ⟨n1, new1, l1, s1⟩ := h1
  obtain ⟨n2, new2, l2, s2⟩ := h2
  refine ⟨n1.trans n2, new1 ++ new2, by rw [l1, l2, List.append_assoc], ?_⟩
  intro e he
  rcases List.mem_append.1 he with he | he
  · rw [s1 e he, n2]
  · exact s2 e he

theorem Ext.ofEq {t s : St} (h1 : t.now = s.now) (h2 : t.log = s.log) : Ext t s := ⟨h1, [], by simp [h2], by simp⟩
theorem Ext.upd {u t s : St} (h : Ext t s) (h1 : u.now = t.now) (h2 : u.log = t.log) : Ext u s := (Ext.ofEq h1 h2).trans h

theorem ext_emit (s : St) (o) : Ext (s.emit o) s := ⟨rfl, [(s.now, o)], rfl, by simp⟩

theorem ext_errHandler (s : St) : Ext s.errHandler s := by
  unfold St.errHandler; split
  · exact ext_emit s _
  · exact Ext.refl s

theorem ext_resolveWaiter (s : St) (w) : Ext (s.resolveWaiter w) s := by
  unfold St.resolveWaiter
  split
  · split
    · exact Ext.refl s
    · exact ⟨rfl, [(s.now, .ticket w)], rfl, by simp⟩
  · exact Ext.refl s

theorem ext_foldl {β} {f : St → β → St} (hf : ∀ s b, Ext (f s b) s) (l : List β) (s : St) : Ext (l.foldl f s) s :=
  foldl_rel (R := fun s t => Ext t s) .refl (fun h1 h2 => h2.trans h1) hf l s

theorem ext_raise (s : St) (f) : Ext (s.raise f) s :=
  (ext_foldl ext_resolveWaiter _ _).trans (Ext.ofEq rfl rfl)

theorem ext_raiseAll (fs : List FlagId) (s : St) : Ext (s.raiseAll fs) s := ext_foldl ext_raise fs s

theorem ext_endFlags (s : St) : Ext s.endFlags s := (ext_raiseAll s.onEnd s).upd rfl rfl

theorem ext_signalChild (s : St) (c g) : Ext (s.signalChild c g) s :=
  ⟨signalChild_now s c g, [(s.now, .signal c g)], signalChild_log s c g, by simp⟩

theorem ext_killReap (s : St) (c) : Ext (s.killReap c) s := by
  unfold St.killReap
  simp only []
  split
  · exact ⟨rfl, [(s.now, .reaped c 9), (s.now, .kill c)], rfl, by simp⟩
  · exact ext_emit s _

theorem ext_reset (s : St) : Ext s.reset s := by
  unfold St.reset; split <;> exact Ext.ofEq rfl rfl

theorem ext_spawn (s : St) : Ext s.spawn.1 s := by
  unfold St.spawn
  split
  · exact Ext.refl s
  · simp only []
    have h0 : Ext (if s.hookSet = true then s.emit Obs.hook else s) s := by
      split
      · exact ext_emit s _
      · exact Ext.refl s
    generalize (if s.hookSet = true then s.emit Obs.hook else s) = s' at h0
    split <;> exact (ext_emit _ _).trans (h0.upd rfl rfl)

theorem ext_reap (s : St) (c) : Ext (s.reap c) s := by
  unfold St.reap; simp only []
  split <;> exact (ext_emit _ _).trans (Ext.ofEq rfl rfl)

theorem ext_spawnFin (s : St) (f) : Ext (s.spawnFin f) s := by
  unfold St.spawnFin
  split
  · exact (ext_raise _ _).trans (ext_spawn s)
  · exact (ext_raise _ _).trans ((ext_errHandler _).trans (ext_spawn s))

theorem ext_continueRestart (s : St) : Ext s.continueRestart s := by
  have h0 : Ext ({ s with onEndRestart := none } : St).reset s :=
    (ext_reset _).trans (Ext.ofEq (t := ({ s with onEndRestart := none } : St)) rfl rfl)
  exact continueRestart_cases (P := (Ext · s)) s (fun _ => .refl s) (fun f _ => (ext_spawnFin _ f).trans h0)
    fun _ _ _ => (ext_errHandler _).trans ((ext_spawn _).trans h0)

theorem ext_waitBranch (s : St) (c) : Ext (waitBranch s c) s :=
  (ext_continueRestart _).trans ((ext_endFlags _).trans ((ext_raiseAll _ _).trans (ext_reap s c)))

theorem ext_handle (s : St) (m : Msg) : Ext (handle s m) s := by
  apply handle_cases (P := fun t => Ext t s) s m
  case noop => exact fun _ => ext_raise _ _
  case start => exact fun _ _ => (ext_spawnFin _ _).trans (ext_reset s)
  case stop => exact fun c _ _ => (ext_raise _ _).trans ((ext_endFlags _).trans (ext_killReap s c))
  case gracefulStop => exact fun c sig _ _ _ => (ext_signalChild s c sig).upd rfl rfl
  case tryRestart =>
    exact fun c _ _ => (ext_spawnFin _ _).trans ((ext_endFlags _).trans ((ext_reset _).trans (ext_killReap s c)))
  case tryGracefulRestart => exact fun c sig _ _ _ => (ext_signalChild s c sig).upd rfl rfl
  case continueTGR =>
    intro _ s0 h0
    have h1 : Ext s0 s := by
      rcases h0 with ⟨-⟩ | ⟨c, -⟩
      · exact Ext.refl _
      · exact (ext_endFlags _).trans (ext_killReap s c)
    refine (ext_spawnFin _ _).trans ((ext_reset _).trans ?_)
    split
    · exact h1.upd rfl rfl
    · exact h1
  case signal => exact fun c sig _ _ => (ext_raise _ _).trans (ext_signalChild s c sig)
  case delete => exact fun _ => (ext_raise _ _).trans ((ext_emit _ _).trans ((ext_raise s m.done).upd rfl rfl))
  case nextEnding => exact fun _ _ => (Ext.refl s).upd rfl rfl
  case func => exact fun _ _ => (ext_raise _ _).trans (ext_emit s _)
  case hook => exact fun _ _ => (ext_raise _ _).trans ((Ext.refl s).upd rfl rfl)
  case err => exact fun _ _ => (ext_raise _ _).trans ((Ext.refl s).upd rfl rfl)

theorem ext_register (s : St) (f w) : Ext (s.register f w) s := by
  unfold St.register; split <;> exact Ext.ofEq rfl rfl

theorem ext_pollWaiter (s : St) (w) : Ext (pollWaiter s w) s :=
  pollWaiter_rel (R := fun s t => Ext t s) .refl (fun h1 h2 => h2.trans h1) ext_resolveWaiter ext_register s w

theorem ext_drainPolls (s : St) : Ext (drainPolls s) s :=
  (ext_foldl ext_pollWaiter _ _).trans (Ext.ofEq rfl rfl)

/-- the effects in a piece of log: `s.fx` is `fxOf s.log` -/
def fxOf (l : List (Nat × Obs)) : List Obs := (l.map (·.2)).filter (fun o => !isTicket o)

theorem fx_split {t s : St} {new : List (Nat × Obs)} (h : t.log = new ++ s.log) : t.fx = fxOf new ++ s.fx := by
  simp [St.fx, fxOf, h]

theorem fxOf_mem {new : List (Nat × Obs)} {t : Nat} {o : Obs} (h : (t, o) ∈ new) (hn : isTicket o = false) : o ∈ fxOf new := by
  unfold fxOf
  exact List.mem_filter.2 ⟨List.mem_map.2 ⟨(t, o), h, rfl⟩, by simp [hn]⟩

theorem mem_of_fxOf {new : List (Nat × Obs)} {o : Obs} (h : o ∈ fxOf new) : ∃ t, (t, o) ∈ new := by
  unfold fxOf at h
  obtain ⟨e, he, rfl⟩ := List.mem_map.1 (List.mem_filter.1 h).1
  exact ⟨e.1, he⟩

theorem new_eq {t s : St} {new : List (Nat × Obs)} {eff : List Obs} (h : t.log = new ++ s.log) (hf : t.fx = eff ++ s.fx) :
    fxOf new = eff := by
  rw [fx_split h] at hf
  exact List.append_cancel_right hf

/-- controls that never force-kill, with a grace period of at least `G` -/
def Gentle (G : Nat) : Ctl → Prop
  | .stop | .tryRestart | .continueTGR => False
  | .gracefulStop _ g | .tryGracefulRestart _ g => G ≤ g
  | _ => True

theorem spawnB_nokill (sp : Sp) (b : Beh) (c : ChildId) : Obs.kill c ∉ (sp.spawnB b).2 := by
  unfold Sp.spawnB
  cases b <;> cases sp.hook <;> cases sp.errh <;> simp

theorem respawn_nokill (sp : Sp) (c : ChildId) : Obs.kill c ∉ sp.respawn.2 := spawnB_nokill _ _ c

theorem kill_in_spec {sp : Sp} {ctl : Ctl} {c : ChildId} (h : Obs.kill c ∈ (specStep sp ctl).2.1) :
    sp.cs = .running c ∧ (ctl = .stop ∨ ctl = .tryRestart ∨ ctl = .continueTGR) := by
  cases ctl <;> cases hcs : sp.cs <;> simp [specStep, hcs] at h
  -- what is left: a respawn from idle, which kills nothing, and the three forceful controls on a running child
  case start.pending | start.finished | continueTGR.pending | continueTGR.finished => exact absurd h (respawn_nokill _ c)
  case stop.running => subst h; exact ⟨rfl, by simp⟩
  case tryRestart.running | continueTGR.running =>
    rcases h with h | h
    · subst h; exact ⟨rfl, by simp⟩
    · exact absurd h (respawn_nokill _ c)

theorem specExit_nokill (sp : Sp) (c st rp) (c' : ChildId) : Obs.kill c' ∉ (specExit sp c st rp).2 := by
  unfold specExit
  simp only []
  split
  · intro h
    simp only [List.cons_append, List.nil_append, List.mem_cons, reduceCtorEq, false_or] at h
    exact respawn_nokill _ c' h
  · simp

theorem spec_gentle_cs {G : Nat} {sp : Sp} {ctl : Ctl} {c : ChildId} (hg : Gentle G ctl) (h : sp.cs = .running c) :
    (specStep sp ctl).1.cs = .running c := by
  cases ctl <;> simp [Gentle] at hg <;> simp [specStep, h]

/-- an armed timer belongs to the running child and expires no earlier than `G` after a signal to it -/
def Armed (G : Nat) (s : St) : Prop :=
  ∀ tm, s.timer = some tm → ∃ c t0 sig, s.cs = .running c ∧ (t0, Obs.signal c sig) ∈ s.log ∧ t0 + G ≤ tm.until_

/-- every kill so far came no earlier than `G` after a signal to the same child -/
def Kills (G : Nat) (s : St) : Prop := ∀ t c, (t, Obs.kill c) ∈ s.log → ∃ t0 sig, (t0, Obs.signal c sig) ∈ s.log ∧ t0 + G ≤ t

structure Grace (G : Nat) (s : St) : Prop where
  q : ∀ m ∈ s.normal ++ s.high ++ s.urgent, Gentle G m.ctl
  t : Armed G s
  k : Kills G s

theorem Armed.keep {G : Nat} {t s : St} (h : Armed G s) {new : List (Nat × Obs)} (hl : t.log = new ++ s.log)
    (htm : t.timer = s.timer) (hcs : ∀ c, s.cs = .running c → t.cs = .running c) : Armed G t := by
  intro tm htm'
  obtain ⟨c, t0, sig, h1, h2, h3⟩ := h tm (htm ▸ htm')
  exact ⟨c, t0, sig, hcs c h1, by rw [hl]; exact List.mem_append_right _ h2, h3⟩

theorem grace_step {G : Nat} {t s : St} (h : Kills G s) {new : List (Nat × Obs)} (hl : t.log = new ++ s.log)
    (hq : ∀ m ∈ t.normal ++ t.high ++ t.urgent, Gentle G m.ctl) (ht : Armed G t)
    (hk : ∀ tt c, (tt, Obs.kill c) ∈ new → ∃ t0 sig, (t0, Obs.signal c sig) ∈ s.log ∧ t0 + G ≤ tt) : Grace G t := by
  refine ⟨hq, ht, fun tt c hkt => ?_⟩
  rw [hl] at hkt ⊢
  obtain ⟨t0, sig, h2, h3⟩ := (List.mem_append.1 hkt).elim (hk tt c) (h tt c)
  exact ⟨t0, sig, List.mem_append_right _ h2, h3⟩

theorem Grace.quiet {G : Nat} {t s : St} (h : Grace G s) (he : ∃ new, t.log = new ++ s.log) (hfx : t.fx = s.fx)
    (hn : t.normal = s.normal) (hh : t.high = s.high) (hu : t.urgent = s.urgent)
    (htm : t.timer = s.timer) (hcs : t.cs = s.cs) : Grace G t := by
  obtain ⟨new, hl⟩ := he
  have hnew : fxOf new = [] := new_eq (eff := []) hl (by simpa using hfx)
  refine grace_step h.k hl (by rw [hn, hh, hu]; exact h.q) (h.t.keep hl htm fun c hc => hcs.trans hc) (fun tt c hk => ?_)
  have := fxOf_mem hk rfl
  rw [hnew] at this; cases this

theorem waitReady_cs {s : St} {c} (hw : waitReady s = some c) : s.cs = .running c := waitReady_running hw

theorem grace_waitBranch {G : Nat} {sp0 : Sp} {s : St} (hr : RunInv sp0 s) (h : Grace G s) (c : ChildId) :
    Grace G (waitBranch { s with parked := false } c) := by
  obtain ⟨-, r2⟩ := waitBranch_refines { s with parked := false } c hr.1
  obtain ⟨-, new, hl, -⟩ := ext_waitBranch { s with parked := false } c
  have hnew := new_eq hl r2
  obtain ⟨hn, hh, hu⟩ := qv_queues (waitBranch_qv { s with parked := false } c)
  refine grace_step h.k hl (by rw [hn, hh, hu]; exact h.q) (fun tm htm => by rw [waitBranch_timer] at htm; cases htm) fun tt c' hk => ?_
  have := fxOf_mem hk rfl
  rw [hnew] at this
  exact absurd (List.mem_reverse.1 this) (specExit_nokill _ _ _ _ c')

/-- the state `handle` is given: as `Grace`, but the timer's own message may be the one in flight — then the timer is gone,
    and it had expired, at least `G` after a signal to the running child -/
structure InHand (G : Nat) (s : St) (m : Msg) : Prop where
  q : ∀ m' ∈ s.normal ++ s.high ++ s.urgent, Gentle G m'.ctl
  k : Kills G s
  m : (Gentle G m.ctl ∧ Armed G s) ∨
      (s.timer = none ∧ (m.ctl = .stop ∨ m.ctl = .continueTGR) ∧ ∃ c t0 sig, s.cs = .running c ∧ (t0, Obs.signal c sig) ∈ s.log ∧ t0 + G ≤ s.now)

theorem inHand_take {G : Nat} {s s1 : St} {src : Src} {m : Msg} (h : Grace G s) (hsrc : src ∈ recvCandidates s)
    (ht : Take s src m s1) : InHand G { s1 with parked := false } m := by
  have queued : ∀ {src m s1}, Take s src m s1 → src ≠ .timer →
      (∀ m' ∈ s1.normal ++ s1.high ++ s1.urgent, Gentle G m'.ctl) ∧ Gentle G m.ctl := fun ht hs =>
    ⟨fun m' hm' => h.q m' ((ht.mem_queued hs).2 (.inl hm')), h.q _ ((ht.mem_queued hs).2 (.inr rfl))⟩
  cases ht with
  | timer tm htm =>
    obtain ⟨tm', htm', hle⟩ := timer_cand hsrc
    obtain ⟨c, t0, sig, h1, h2, h3⟩ := h.t tm htm
    cases htm.symm.trans htm'
    exact ⟨h.q, h.k, .inr ⟨rfl, by cases tm.isRestart <;> simp, c, t0, sig, h1, h2, Nat.le_trans h3 hle⟩⟩
  | urgent m r hq => exact ⟨(queued (.urgent m r hq) (by simp)).1, h.k, .inl ⟨(queued (.urgent m r hq) (by simp)).2, h.t⟩⟩
  | high m r hq => exact ⟨(queued (.high m r hq) (by simp)).1, h.k, .inl ⟨(queued (.high m r hq) (by simp)).2, h.t⟩⟩
  | normal m r hq => exact ⟨(queued (.normal m r hq) (by simp)).1, h.k, .inl ⟨(queued (.normal m r hq) (by simp)).2, h.t⟩⟩

theorem grace_handle {G : Nat} {sp0 : Sp} {s : St} {m : Msg} (hr : RunInv sp0 s) (h : InHand G s m) : Grace G (handle s m) := by
  obtain ⟨r1, r2, -⟩ := handle_refines s m hr.1 fun c hc => child_of_inv hr.2.1 hc
  obtain ⟨-, new, hl, hst⟩ := ext_handle s m
  have hnew : fxOf new = (specStep s.abs m.ctl).2.1.reverse := new_eq hl r2
  have hcs : (handle s m).cs = (specStep s.abs m.ctl).1.cs := congrArg Sp.cs r1
  obtain ⟨hn, hh, hu⟩ := qv_queues (handle_qv s m)
  refine grace_step h.k hl (by rw [hn, hh, hu]; exact h.q) ?_ (fun tt c hk => ?_)
  · rcases handle_timer s m with e | ⟨c, sig, g, r, hrun, hctl, e⟩
    · -- the old timer, still for the same running child: a gentle control does not end it
      rcases h.m with ⟨hg, ht⟩ | ⟨hnone, -, -⟩
      · exact ht.keep hl e fun c hc => hcs.trans (spec_gentle_cs hg hc)
      · exact fun tm htm => by rw [e, hnone] at htm; cases htm
    · -- armed by this control: its signal is among the effects of this very step, stamped now
      intro tm htm
      rw [e] at htm; cases htm
      have hG : G ≤ g := by
        rcases h.m with ⟨hg, -⟩ | ⟨-, hm, -⟩
        · rw [hctl] at hg; cases r <;> exact hg
        · rcases hm with hm | hm <;> rw [hm] at hctl <;> cases r <;> cases hctl
      have heff : (specStep s.abs m.ctl).2.1 = [.signal c sig] ∧ (specStep s.abs m.ctl).1.cs = .running c := by
        rw [hctl]; cases r <;> simp [specStep, show s.abs.cs = .running c from hrun]
      obtain ⟨t0, hm0⟩ := mem_of_fxOf (new := new) (o := .signal c sig) (by rw [hnew, heff.1]; simp)
      refine ⟨c, t0, sig, hcs.trans heff.2, by rw [hl]; exact List.mem_append_left _ hm0, ?_⟩
      have h0 : t0 = s.now := hst _ hm0
      show t0 + G ≤ s.now + g
      omega
  · -- a new kill: only the timer's own message can cause it, and that comes at or after the deadline
    have hkf := fxOf_mem hk rfl
    rw [hnew] at hkf
    obtain ⟨hrun, hctl⟩ := kill_in_spec (List.mem_reverse.1 hkf)
    rcases h.m with ⟨hg, -⟩ | ⟨-, -, c', t0, sig, h1, h2, h3⟩
    · rcases hctl with hctl | hctl | hctl <;> (rw [hctl] at hg; exact hg.elim)
    · cases h1.symm.trans (show s.cs = .running c from hrun)
      exact ⟨t0, sig, h2, (show tt = s.now from hst _ hk) ▸ h3⟩

theorem grace_closed {G : Nat} {s : St} (h : Grace G s) : Grace G ((({ s with alive := false } : St).emit .ended).raise 0) := by
  -- `ended` is appended: a process-visible effect, but not a kill, and the timer / state / queues stay
  have hs := raise_same (({ s with alive := false } : St).emit .ended) 0
  obtain ⟨-, new, hl, -⟩ := (ext_raise (({ s with alive := false } : St).emit .ended) 0).trans
    ((ext_emit ({ s with alive := false } : St) .ended).trans (Ext.ofEq rfl rfl))
  have hfx : ((({ s with alive := false } : St).emit .ended).raise 0).fx = [.ended] ++ s.fx := by
    rw [raise_fx, fx_emit _ _ rfl]; rfl
  have hnew := new_eq hl hfx
  have hcs : ((({ s with alive := false } : St).emit .ended).raise 0).cs = s.cs := (flagStep_raise _ _).keep
  refine grace_step h.k hl (by rw [hs.normal, hs.high, hs.urgent]; exact h.q) (h.t.keep hl hs.timer fun c hc => hcs.trans hc)
    (fun tt c hk => ?_)
  have := fxOf_mem hk rfl
  rw [hnew] at this; simp at this

theorem grace_turns {G : Nat} {sp0 : Sp} {s : St} (hr : RunInv sp0 s) (h : Grace G s) : ∀ s' ∈ turns s, Grace G s' := by
  refine turns_cases s ?wait ?recv ?closed
  case wait => exact fun c _ => grace_waitBranch hr h c
  case recv =>
    intro src m s1 hsrc ht
    have hr1 : RunInv sp0 { s1 with parked := false } := by cases ht <;> exact hr.congr
    exact grace_handle hr1 (inHand_take h hsrc ht)
  case closed =>
    intro _
    rw [St.closedEnd, if_pos (by rw [hr.1]; rfl)]
    exact grace_closed h

theorem graceInv_simInv (G : Nat) (sp0 : Sp) :
    SimInv2 (fun x => RunInv sp0 x.st ∧ Grace G x.st) (fun _ c => Gentle G c) := by
  -- polling and parking: nothing but ticket entries is appended, no field the invariant reads changes
  have wait : ∀ {s t : St}, WaitStep s t → Ext t s → t.fx = s.fx → Grace G s → Grace G t := fun hw he hfx h =>
    h.quiet (he.log.imp fun _ => And.left) hfx hw.keep hw.keep hw.keep hw.keep hw.keep
  have poll : ∀ (s : St) w f, Grace G s →
      Grace G (pollWaiter { s with waiters := s.waiters ++ [{ id := w, done := f }] } w) := fun s w f h =>
    wait ((WaitStep.trans (t := { s with waiters := s.waiters ++ [{ id := w, done := f }] }) rfl (waitStep_pollWaiter _ w)))
      ((ext_pollWaiter _ w).trans (Ext.ofEq rfl rfl)) (pollWaiter_fx _ w) h
  refine simInv2_ofSt (I := fun s => RunInv sp0 s ∧ Grace G s)
    (fun s h s' hs' => ⟨runInv_turns h.1 s' hs', grace_turns h.1 h.2 s' hs'⟩)
    (fun s h => ⟨h.1.park, ?park⟩)
    (fun s h => ⟨h.1.drain, wait (waitStep_drainPolls s) (ext_drainPolls s) (drainPolls_fx s) h.2⟩)
    (fun s t h => ⟨h.1.congr, ⟨h.2.q, h.2.t, h.2.k⟩⟩)
    (fun s p m hc h => ⟨h.1.enqueue p m, ?enqueue⟩)
    (fun s w h => ⟨h.1.congr, wait (waitStep_emit _ _) (ext_emit _ _) (by simp [St.fx, St.emit, isTicket]) h.2⟩)
    (fun s w f h => ⟨h.1.newWaiter w f, poll _ _ _ h.2⟩)
    (fun s h => ⟨h.1.congr, ⟨h.2.q, h.2.t, h.2.k⟩⟩)
  case park =>
    show Grace G (park s)
    unfold park; split
    · exact ⟨h.2.q, h.2.t, h.2.k⟩
    · exact h.2
  case enqueue =>
    have e : (enqueue s p m).log = s.log ∧ (enqueue s p m).timer = s.timer ∧ (enqueue s p m).cs = s.cs := by
      cases p <;> exact ⟨rfl, rfl, rfl⟩
    obtain ⟨e1, e2, e3⟩ := e
    have hl : (enqueue s p m).log = [] ++ s.log := e1
    exact grace_step h.2.k hl (fun m' hm' => (mem_enqueue.1 hm').elim (h.2.q m') fun e => e ▸ hc)
      (h.2.t.keep hl e2 fun c hc => e3.trans hc) (fun _ _ hk => by cases hk)

theorem grace_init (G : Nat) (behs : List Beh) : Grace G { cfg := Fixes.all, behs := behs, hookSet := true, parked := true } :=
  ⟨by simp, fun tm htm => by simp at htm, fun t c hk => by simp at hk⟩

def GentleOps (G : Nat) (ops : List Op) : Prop := ∀ o ∈ ops, OpOkFor2 (fun _ c => Gentle G c) o

/-- **C06, whole run** — for every behaviour script, every script of graceful controls (at any priority, with any
    grace periods ≥ `G`), any passage of time and every resolution of every race: every kill recorded in the log was
    preceded, at least `G` earlier, by a signal to the same child. No child is force-killed before its grace period
    has elapsed. -/
theorem c06_no_early_kill (G : Nat) (behs : List Beh) (ops : List Op) (hops : GentleOps G ops) :
    let x0 : Sim := { st := { cfg := Fixes.all, behs := behs, hookSet := true, parked := true } }
    ∀ y ∈ runOps x0 ops, ∀ t c, (t, Obs.kill c) ∈ y.st.log →
      ∃ t0 sig, (t0, Obs.signal c sig) ∈ y.st.log ∧ t0 + G ≤ t := by
  intro x0 y hy
  exact ((graceInv_simInv G x0.st.abs).runOps ops hops (x := x0) ⟨runInv_init behs, grace_init G behs⟩ y hy).2.k

/-- an armed timer never expires earlier than `G` after the signal that armed it (quantifiers of `c06_no_early_kill`) -/
theorem c06_timer_not_short (G : Nat) (behs : List Beh) (ops : List Op) (hops : GentleOps G ops) :
    let x0 : Sim := { st := { cfg := Fixes.all, behs := behs, hookSet := true, parked := true } }
    ∀ y ∈ runOps x0 ops, ∀ tm, y.st.timer = some tm →
      ∃ c t0 sig, y.st.cs = .running c ∧ (t0, Obs.signal c sig) ∈ y.st.log ∧ t0 + G ≤ tm.until_ := by
  intro x0 y hy
  exact ((graceInv_simInv G x0.st.abs).runOps ops hops (x := x0) ⟨runInv_init behs, grace_init G behs⟩ y hy).2.t

/-- non-vacuity: a graceful stop (grace 50) of a child that ignores the signal — the kill is in the log, at 50 -/
example : (runOps { st := { cfg := Fixes.all, behs := [.ignores], hookSet := true, parked := true } }
    [.send .normal [.start] false, .settle, .send .normal [.gracefulStop 15 50] false, .advance 60]).map
      (fun y => y.st.log.filterMap (fun e => match e.2 with | .kill c => some (e.1, c) | _ => none)) = [[(50, 0)]] := by decide

/-- the hypothesis is needed: a forceful stop sent (urgent) during the grace period kills at once -/
example : (runOps { st := { cfg := Fixes.all, behs := [.ignores], hookSet := true, parked := true } }
    [.send .normal [.start] false, .settle, .send .normal [.gracefulStop 15 50] false, .advance 10,
     .send .urgent [.stop] false, .settle]).map
      (fun y => y.st.log.filterMap (fun e => match e.2 with | .kill c => some (e.1, c) | _ => none)) = [[(10, 0)]] := by decide

#print axioms c06_no_early_kill
#print axioms c06_timer_not_short
end Jm
