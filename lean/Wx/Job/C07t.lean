import Wx.Job.C08t
import Wx.Job.C06
/-! C07, the deadline of a graceful control's ticket: while the job task is alive, an armed grace timer has not expired
    unnoticed — the clock never shows more than its deadline. -/
namespace Jm

def TimerFresh (s : St) : Prop := s.alive = true → ∀ tm, s.timer = some tm → s.now ≤ tm.until_

theorem TimerFresh.congr {t s : St} (h : TimerFresh s) (hc : t.clock = s.clock) : TimerFresh t := by
  simp only [St.clock, Prod.mk.injEq] at hc
  obtain ⟨ha, -, -, -, -, htm, hnow⟩ := hc
  unfold TimerFresh at *
  rw [ha, htm, hnow]; exact h

theorem expired_timer_turns {s : St} (hf7 : s.cfg.f7 = true) (hal : s.alive = true) {tm : Timer} (htm : s.timer = some tm)
    (he : tm.until_ ≤ s.now) : turns s ≠ [] :=
  turns_ne_nil hal (src := .timer) (by rw [timer_fires s tm hf7 htm he]; exact List.mem_singleton_self _) (by simp [takeFrom, htm])

theorem tf_turns {s : St} (h : TimerFresh s) : ∀ s' ∈ turns s, TimerFresh s' := by
  refine turns_cases s ?wait ?recv ?closed
  case wait => exact fun _ _ _ tm htm => by rw [waitBranch_timer] at htm; cases htm
  case closed => exact fun _ hal => by rw [closedEnd_alive] at hal; cases hal
  case recv =>
    intro src m s1 hsrc ht
    obtain ⟨hal1, hnow1, -, -⟩ := take_deadline ht hsrc
    intro hal tm htm
    have hmd : m.ctl ≠ .delete := fun hc => by rw [(handle_alive _ m).1 hc] at hal; cases hal
    rw [(handle_alive _ m).2 hmd] at hal
    rw [(taskStep_handle _ m).keep (π := St.now)]
    show s1.now ≤ tm.until_
    rw [hnow1]
    rcases handle_timer { s1 with parked := false } m with e | ⟨c, sig, g, r, -, -, e⟩
    · -- the timer is the old one (if the timer's own message was taken there is none)
      rw [e] at htm
      cases ht with
      | timer => cases htm
      | urgent | high | normal => exact h (hal1 ▸ hal) tm htm
    · rw [e] at htm; cases htm
      show s.now ≤ s1.now + g
      omega

theorem timerFresh_simInv : SimInv3 (fun x => x.st.cfg = Fixes.all ∧ TimerFresh x.st) (fun _ _ => True) := by
  refine simInv3_ofView St.clock (J := fun s => s.cfg = Fixes.all ∧ TimerFresh s)
    (fun hc h => ⟨(congrArg (·.2.1) hc).trans h.1, h.2.congr hc⟩)
    (fun s h s' hs' => ⟨(turns_cfg s' hs').trans h.1, tf_turns h.2 s' hs'⟩) ?tick
    (fun s p m _ h => ⟨by cases p <;> exact h.1, fun hal tm htm => by cases p <;> exact h.2 hal tm htm⟩)
  case tick =>
    -- time passes only while the task is idle, so the timer has not expired; and never beyond its deadline
    intro s t h hidle hle
    refine ⟨h.1, fun hal tm htm => ?_⟩
    by_cases hlt : s.now < tm.until_
    · exact hle tm htm hlt
    · exact absurd hidle (expired_timer_turns (by rw [h.1]; rfl) hal htm (by omega))

/-- **C07, the grace deadline** — for every behaviour script, every operation script and every race resolution: in every
    reachable state of a live job task an armed grace timer has not expired — the clock shows at most its deadline -/
theorem c07_timer_fresh (behs : List Beh) (ops : List Op) :
    ∀ y ∈ runOps { st := { cfg := Fixes.all, behs := behs, hookSet := true, parked := true } } ops,
      y.st.alive = true → ∀ tm, y.st.timer = some tm → y.st.now ≤ tm.until_ := by
  intro y hy
  have h0 : TimerFresh ({ cfg := Fixes.all, behs := behs, hookSet := true, parked := true } : St) := by
    intro _ tm htm; cases htm
  exact (timerFresh_simInv.runOps ops (fun o _ => (opOkFor_true o).two)
    (x := { st := { cfg := Fixes.all, behs := behs, hookSet := true, parked := true } }) ⟨rfl, h0⟩ y hy).2

/-- **a graceful control's ticket by its deadline**: every flag ever issued is still queued, already raised, waiting for
    the end of the process (wait-for-end), or held by a grace timer whose deadline has not passed — so once a graceful
    stop / restart has been taken from the queue, its ticket is resolved whenever the clock shows more than the deadline -/
theorem c07_ticket_by_deadline (behs : List Beh) (ops : List Op) (hok : ∀ o ∈ ops, OpOk o) :
    ∀ y ∈ runOps { st := { cfg := Fixes.all, behs := behs, hookSet := true, parked := true } } ops,
      y.st.alive = true → ∀ f ∈ y.st.issued,
        f ∈ y.st.pending ∨ y.st.isRaised f = true ∨ f ∈ y.st.onEnd ∨
        ∃ tm, y.st.timer = some tm ∧ tm.done = f ∧ y.st.now ≤ tm.until_ := by
  intro y hy hal f hf
  obtain ⟨hnl, hcp⟩ := c07_noLost behs ops hok y hy
  have htf := c07_timer_fresh behs ops y hy hal
  rcases noLost_iff.1 hnl f hf with h | h | h
  · exact Or.inl h
  · exact Or.inr (Or.inl h)
  · -- held by the timer, the wait-for-end list, or the restart slot — whose timer carries the same flag
    rcases mem_held.1 h with ⟨tm, htm, hd⟩ | h | h
    · exact Or.inr (Or.inr (Or.inr ⟨tm, htm, hd, htf tm htm⟩))
    · exact Or.inr (Or.inr (Or.inl h))
    · obtain ⟨tm, htm, -, hd⟩ := hcp.1 f h
      exact Or.inr (Or.inr (Or.inr ⟨tm, htm, hd, htf tm htm⟩))

#print axioms c07_ticket_by_deadline
end Jm
