import Wx.Job.C07
import Wx.Job.C10
/-! C10, last clause: a raised flag belongs to a control that `recv` has returned — so, with FIFO,
    awaiting a ticket implies every earlier control of that priority has been handled. -/
namespace Jm

/-- every flag raised or held satisfies `A`. `A` is a parameter because `handle` and the wait branch do not write `taken`:
    their lemmas hold for any fixed `A`, and `Ran` puts `A := (· ∈ takenIds s)` in after `recv` has grown `taken` -/
def OkA (A : FlagId → Prop) (t : St) : Prop := (∀ f, t.isRaised f = true → A f) ∧ (∀ f ∈ t.held, A f)

variable {A : FlagId → Prop}

theorem ok_iff {s : St} : OkA A s ↔ (∀ f, s.isRaised f = true → A f) ∧ (∀ t, s.timer = some t → A t.done) ∧
    (∀ f ∈ s.onEnd, A f) ∧ ∀ f, s.onEndRestart = some f → A f := by
  refine and_congr_right fun _ => ⟨fun h => ⟨fun t ht => ?_, fun f hf => ?_, fun f hf => ?_⟩, fun ⟨ht, he, ho⟩ f hf => ?_⟩
  · exact h _ (mem_held.2 (Or.inl ⟨t, ht, rfl⟩))
  · exact h f (mem_held.2 (Or.inr (Or.inl hf)))
  · exact h f (mem_held.2 (Or.inr (Or.inr hf)))
  · rcases mem_held.1 hf with ⟨t, h, rfl⟩ | h | h
    · exact ht t h
    · exact he f h
    · exact ho f h

theorem ok_quiet {t' t : St} (h : Quiet t' t) (hk : OkA A t) : OkA A t' := by
  rw [ok_iff] at *
  unfold St.isRaised at *
  rw [h.2, h.1.timer, h.1.onEnd, h.1.onEndRestart]
  exact hk

theorem ok_raiseAll {t : St} (fs : List FlagId) (ha : ∀ f ∈ fs, A f) (hk : OkA A t) : OkA A (t.raiseAll fs) := by
  refine ⟨fun g hg => ?_, fun g hg => hk.2 g (held_same (raiseAll_same fs t) ▸ hg)⟩
  rw [raiseAll_raised, Bool.or_eq_true, List.contains_iff_mem] at hg
  exact hg.elim (hk.1 g) (ha g)

theorem ok_raise {t : St} (f : FlagId) (ha : A f) (hk : OkA A t) : OkA A (t.raise f) :=
  ok_raiseAll [f] (fun _ h => List.mem_singleton.1 h ▸ ha) hk

theorem ok_endFlags {t : St} (hk : OkA A t) : OkA A t.endFlags := by
  obtain ⟨r, tm, -, o⟩ := ok_iff.1 (ok_raiseAll t.onEnd (ok_iff.1 hk).2.2.1 hk)
  exact ok_iff.2 ⟨r, tm, fun _ h => (List.not_mem_nil h).elim, o⟩

theorem ok_clear {t : St} (hk : OkA A t) : OkA A ({ t with onEndRestart := none } : St) := by
  obtain ⟨r, tm, e, -⟩ := ok_iff.1 hk
  exact ok_iff.2 ⟨r, tm, e, fun _ h => (by cases h)⟩

theorem ok_spawnFin {t : St} {f : FlagId} (ha : A f) (hk : OkA A t) : OkA A (t.spawnFin f) := by
  unfold St.spawnFin
  split
  · exact ok_raise f ha (ok_quiet (procStep_spawn t).quiet hk)
  · exact ok_raise f ha (ok_quiet ((waitStep_errHandler _).quiet.trans (procStep_spawn t).quiet) hk)

/-- handling a control raises, or starts holding, only its own flag — everything else it raises was
    already held — and `0` (the job's `gone`) on delete -/
theorem ok_handle (s : St) (m : Msg) (hA : A m.done) (hA0 : A 0) (hk : OkA A s) : OkA A (handle s m) := by
  apply handle_cases s m
  case noop => exact fun _ => ok_raise _ hA hk
  case start => exact fun _ _ => ok_spawnFin hA (ok_quiet (procStep_reset s).quiet hk)
  case stop => exact fun c _ _ => ok_raise _ hA (ok_endFlags (ok_quiet (procStep_killReap s c).quiet hk))
  case gracefulStop =>
    intro c sig grace _ _
    obtain ⟨r, -, e, o⟩ := ok_iff.1 (ok_quiet (procStep_signalChild s c sig).quiet hk)
    exact ok_iff.2 ⟨r, fun t h => by cases h; exact hA, e, o⟩
  case tryRestart =>
    exact fun c _ _ => ok_spawnFin hA (ok_endFlags (ok_quiet ((procStep_killReap s c).trans (procStep_reset _)).quiet hk))
  case tryGracefulRestart =>
    intro c sig grace _ _
    obtain ⟨r, -, e, -⟩ := ok_iff.1 (ok_quiet (procStep_signalChild s c sig).quiet hk)
    exact ok_iff.2 ⟨r, fun t h => by cases h; exact hA, e, fun f h => by cases h; exact hA⟩
  case continueTGR =>
    intro _ s0 h0
    have h0 : OkA A s0 := by
      rcases h0 with ⟨-⟩ | ⟨c, -⟩
      · exact hk
      · exact ok_endFlags (ok_quiet (procStep_killReap s c).quiet hk)
    refine ok_spawnFin hA (ok_quiet (procStep_reset _).quiet ?_)
    split
    · exact ok_clear h0
    · exact h0
  case signal => exact fun c sig _ _ => ok_raise _ hA (ok_quiet (procStep_signalChild s c sig).quiet hk)
  case delete => exact fun _ => ok_raise 0 hA0 (ok_quiet (t := s.raise m.done) (.of_view rfl) (ok_raise _ hA hk))
  case nextEnding =>
    intro _ _
    obtain ⟨r, t, e, o⟩ := ok_iff.1 hk
    exact ok_iff.2 ⟨r, t, fun f hf => (List.mem_append.1 hf).elim (e f) fun h => List.mem_singleton.1 h ▸ hA, o⟩
  case func => exact fun id _ => ok_raise _ hA (ok_quiet (waitStep_emit s _).quiet hk)
  case hook => exact fun b _ => ok_raise _ hA (ok_quiet (t := s) (.of_view rfl) hk)
  case err => exact fun b _ => ok_raise _ hA (ok_quiet (t := s) (.of_view rfl) hk)

theorem ok_mono {A B : FlagId → Prop} {t : St} (h : ∀ f, A f → B f) (hk : OkA A t) : OkA B t :=
  ⟨fun f hf => h f (hk.1 f hf), fun f hf => h f (hk.2 f hf)⟩

theorem ok_continueRestart {t : St} (hk : OkA A t) : OkA A t.continueRestart :=
  continueRestart_cases t (fun _ => hk)
    (fun f hf => ok_spawnFin ((ok_iff.1 hk).2.2.2 f hf) (ok_quiet (procStep_reset _).quiet (ok_clear hk)))
    fun _ _ _ => ok_quiet ((waitStep_errHandler _).quiet.trans ((procStep_reset _).trans (procStep_spawn _)).quiet) (ok_clear hk)

theorem ok_waitBranch (s : St) (c) (hk : OkA A s) : OkA A (waitBranch s c) := by
  obtain ⟨r, t, e, o⟩ := ok_iff.1 hk
  have hreap : OkA A (s.reap c) := by
    rw [reap_eq]
    exact ok_iff.2 ⟨r, fun _ h => (by cases h), e, o⟩
  refine ok_continueRestart (ok_endFlags (ok_raiseAll _ (fun f hf => ?_) hreap))
  -- the flag of a pending graceful stop (repair F1) is the timer's
  unfold St.stopFlags at hf
  split at hf
  · next tm htm =>
    split at hf
    · exact List.mem_singleton.1 hf ▸ t tm htm
    · cases hf
  · cases hf

def takenIds (s : St) : FlagId → Prop := fun f => f = 0 ∨ f ∈ s.taken.map (·.2)

/-- every raised flag, and every flag held by the timer / `on_end` / the restart slot, belongs to a
    control that `recv` has already returned (or is the job's own `gone` flag) -/
def Ran (s : St) : Prop := OkA (takenIds s) s

theorem ran_of_taken {t s : St} (ht : t.taken = s.taken) (hk : OkA (takenIds s) t) : Ran t := by
  unfold Ran takenIds
  rw [ht]
  exact hk

theorem ran_quiet {t s : St} (h : Quiet t s) (ht : t.taken = s.taken) (hr : Ran s) : Ran t :=
  ran_of_taken ht (ok_quiet h hr)

theorem ran_take {s s1 : St} {src m} (h : Ran s) (ht : Take s src m s1) : OkA (takenIds s1) s1 ∧ takenIds s1 m.done := by
  have grow : ∀ {q : Src} {m : Msg} {s1 : St}, s1.taken = s.taken ++ [(q, m.done)] → OkA (takenIds s) s1 →
      OkA (takenIds s1) s1 ∧ takenIds s1 m.done := by
    intro q m s1 ht hk
    unfold takenIds
    rw [ht]
    exact ⟨ok_mono (fun f hf => hf.imp_right fun h => by simp [h]) hk, Or.inr (by simp)⟩
  cases ht with
  | timer t htm =>
    obtain ⟨r, tm, e, o⟩ := ok_iff.1 h
    exact ⟨ok_iff.2 ⟨r, fun _ h => (by cases h), e, o⟩, tm t htm⟩
  | urgent m r hq => exact grow rfl h
  | high m r hq => exact grow rfl h
  | normal m r hq => exact grow rfl h

theorem ran_turns {s : St} (h : Ran s) : ∀ s' ∈ turns s, Ran s' := by
  refine turns_cases s ?wait ?recv ?closed
  case wait =>
    exact fun c _ => ran_of_taken (taskStep_waitBranch _ c).keep
      (ok_waitBranch _ c (ok_quiet (t := s) (.of_view rfl) h))
  case recv =>
    intro src m s1 _ ht
    obtain ⟨h1, hm⟩ := ran_take h ht
    exact ran_of_taken (taskStep_handle _ m).keep
      (ok_handle _ m hm (Or.inl rfl) (ok_quiet (t := s1) (.of_view rfl) h1))
  case closed =>
    intro _
    have h1 : Ran ({ s with alive := false } : St) := ran_quiet (.of_view rfl) rfl h
    unfold St.closedEnd
    split
    · exact ran_of_taken (s := { s with alive := false }) (flagStep_raise _ 0).keep
        (ok_raise 0 (Or.inl rfl) (ok_quiet (waitStep_emit _ _).quiet h1))
    · exact ran_quiet (waitStep_emit _ _).quiet rfl h1

theorem ran_simInv : SimInv Ran (fun _ _ => True) :=
  .ofView (fun s => (s.flagView, s.taken))
    (fun h => by rw [Prod.mk.injEq] at h; exact ran_quiet (.of_view h.1) h.2)
    (fun _ h => ran_turns h)
    (fun s p m _ h => by cases p <;> exact ran_of_taken rfl h)

/-- **C10 (a resolved ticket means the control ran)** — for every fix configuration, script, behaviour
    and race: a raised flag other than `gone` belongs to a control that `recv` returned; and what `recv`
    has returned from a queue is a prefix of what was sent to it (`c10_fifo`). So awaiting the last
    ticket of a burst implies every earlier control of that priority has been handled. -/
theorem c10_ran (cfg : Fixes) (behs : List Beh) (ops : List Op) :
    ∀ y ∈ runOps { st := { cfg := cfg, behs := behs, hookSet := true, parked := true } } ops,
      (∀ f, y.st.isRaised f = true → f = 0 ∨ f ∈ y.st.taken.map (·.2)) ∧
      (∀ q, q ≠ Src.timer → proj y.st.taken q <+: proj y.st.sent q) := by
  intro y hy
  have h1 : Ran y.st := ran_simInv.runOps ops (fun o _ => opOkFor_true o)
    ⟨by intro f hf; simp [St.isRaised] at hf, by intro f hf; simp [St.held, timerFlag] at hf⟩ y hy
  exact ⟨h1.1, fun q hq => ⟨_, c10_fifo cfg behs ops y hy q hq⟩⟩

#print axioms c10_ran
end Jm
