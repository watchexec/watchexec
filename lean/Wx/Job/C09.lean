import Wx.Job.C06
/-! C09: the documented API as the simplest machine, and `handle` refines it step by step. -/
namespace Jm

structure Sp where
  cs : CS
  prev : Option CS
  hook : Bool
  errh : Bool
  n : Nat                 -- spawn attempts so far (= id of the next child)
  behs : List Beh         -- what each spawn attempt will do (environment)
  deriving DecidableEq, Repr

def Sp.beh (sp : Sp) : Beh :=
  match sp.behs[sp.n]? with
  | some b => b
  | none => sp.behs.getLast?.getD .ignores

def Sp.reset (sp : Sp) : Sp := { sp with prev := some sp.cs, cs := .pending }

/-- hook (if set), then the spawn attempt; a failure goes to the error handler (if set) -/
def Sp.spawnB (sp : Sp) (b : Beh) : Sp × List Obs :=
  let pre : List Obs := if sp.hook then [.hook] else []
  match b with
  | .spawnFails => ({ sp with n := sp.n + 1 }, pre ++ [.spawnFail] ++ (if sp.errh then [.errh] else []))
  | _ => ({ sp with cs := .running sp.n, n := sp.n + 1 }, pre ++ [.spawn sp.n])
def Sp.spawn (sp : Sp) : Sp × List Obs := sp.spawnB sp.beh

def Sp.respawn (sp : Sp) : Sp × List Obs := sp.reset.spawn

/-- documented effect of one control: new state, what happens to processes (in order), and whether
    the control's ticket resolves in this very step -/
def specStep (sp : Sp) (ctl : Ctl) : Sp × List Obs × Bool :=
  match ctl with
  | .start =>
    match sp.cs with
    | .running _ => (sp, [], true)
    | _ => let (sp', e) := sp.respawn; (sp', e, true)
  | .stop =>
    match sp.cs with
    | .running c => ({ sp with cs := .finished 9 }, [.kill c, .reaped c 9], true)
    | _ => (sp, [], true)
  | .tryRestart =>
    match sp.cs with
    | .running c => let (sp', e) := ({ sp with cs := .finished 9 }).respawn; (sp', [.kill c, .reaped c 9] ++ e, true)
    | _ => (sp, [], true)
  | .gracefulStop sig _ =>
    match sp.cs with
    | .running c => (sp, [.signal c sig], false)
    | _ => (sp, [], true)
  | .tryGracefulRestart sig _ =>
    match sp.cs with
    | .running c => (sp, [.signal c sig], false)
    | _ => (sp, [], true)
  | .continueTGR =>
    match sp.cs with
    | .running c => let (sp', e) := ({ sp with cs := .finished 9 }).respawn; (sp', [.kill c, .reaped c 9] ++ e, true)
    | _ => let (sp', e) := sp.respawn; (sp', e, true)
  | .signal sig =>
    match sp.cs with
    | .running c => (sp, [.signal c sig], true)
    | _ => (sp, [], true)
  | .nextEnding =>
    match sp.cs with
    | .running _ => (sp, [], false)
    | _ => (sp, [], true)
  | .func id => (sp, [.func id (csName sp.cs) (prevName sp.prev)], true)
  | .delete => (sp, [.ended], true)
  | .setHook => ({ sp with hook := true }, [], true)
  | .unsetHook => ({ sp with hook := false }, [], true)
  | .setErr => ({ sp with errh := true }, [], true)
  | .unsetErr => ({ sp with errh := false }, [], true)

def St.abs (s : St) : Sp := ⟨s.cs, s.prev, s.hookSet, s.errSet, s.spawnCount, s.behs⟩

theorem abs_beh (s : St) : s.abs.beh = behAt s := rfl

def isTicket : Obs → Bool | .ticket _ => true | _ => false
/-- process-visible effects so far, newest first -/
def St.fx (s : St) : List Obs := (s.log.map (·.2)).filter (fun o => !isTicket o)

/-! `abs` reads the command state, `fx` the log without its ticket entries. Flag and waiter bookkeeping writes none of
    the fields `abs` reads, and all it ever logs is a ticket. -/

theorem abs_withFlags (s t : St) : (s.withFlags t).abs = s.abs := rfl

@[simp] theorem abs_emit (s : St) (o) : (s.emit o).abs = s.abs := rfl
theorem fx_emit (s : St) (o : Obs) (h : isTicket o = false) : (s.emit o).fx = o :: s.fx := by
  simp [St.fx, St.emit, h]

theorem resolveWaiter_fx (s : St) (w) : (s.resolveWaiter w).fx = s.fx := by
  unfold St.resolveWaiter
  split
  · split <;> rfl
  · rfl

theorem fx_foldl {β} {f : St → β → St} (hf : ∀ s b, (f s b).fx = s.fx) (l : List β) (s : St) : (l.foldl f s).fx = s.fx :=
  foldl_rel (R := fun s t => t.fx = s.fx) (fun _ => rfl) (fun h1 h2 => h2.trans h1) hf l s

@[simp] theorem raise_abs (s : St) (f) : (s.raise f).abs = s.abs := (flagStep_raise s f).keep abs_withFlags
@[simp] theorem raise_fx (s : St) (f) : (s.raise f).fx = s.fx := fx_foldl resolveWaiter_fx _ _
theorem raiseAll_fx (s : St) (fs) : (s.raiseAll fs).fx = s.fx := fx_foldl raise_fx fs s

theorem pollWaiter_fx (s : St) (w) : (pollWaiter s w).fx = s.fx :=
  pollWaiter_rel (R := fun s t => t.fx = s.fx) (fun _ => rfl) (fun h1 h2 => h2.trans h1) resolveWaiter_fx
    (fun s f w => by unfold St.register; split <;> rfl) s w

theorem drainPolls_fx (s : St) : (drainPolls s).fx = s.fx := fx_foldl pollWaiter_fx _ _

/-- on the way from `s`: the observable state has become `sp`, the effects so far are `e` -/
structure Sofar (s : St) (sp : Sp) (e : List Obs) (t : St) : Prop where
  abs : t.abs = sp
  fx : t.fx = e.reverse ++ s.fx

/-- what `handle_refines` says of a step from `s` to `t`, for a control with flag `f` to which the documented machine answers `r` -/
def Refines (s : St) (f : FlagId) (r : Sp × List Obs × Bool) (t : St) : Prop :=
  t.abs = r.1 ∧ t.fx = r.2.1.reverse ++ s.fx ∧ (s.isRaised f = false → t.isRaised f = r.2.2)

section
variable {s t : St} {sp : Sp} {e : List Obs}

theorem Sofar.raiseAll (h : Sofar s sp e t) (fs) : Sofar s sp e (t.raiseAll fs) :=
  ⟨((flagStep_raiseAll t fs).keep abs_withFlags).trans h.abs, (raiseAll_fx t fs).trans h.fx⟩

theorem Sofar.held (h : Sofar s sp e t) (timer onEnd onEndRestart) :
    Sofar s sp e { t with timer := timer, onEnd := onEnd, onEndRestart := onEndRestart } :=
  ⟨h.abs, h.fx⟩

theorem Sofar.endFlags (h : Sofar s sp e t) : Sofar s sp e t.endFlags :=
  (h.raiseAll t.onEnd).held _ _ _

theorem Sofar.reset (h : Sofar s sp e t) (hn : ∀ c, sp.cs ≠ .running c) : Sofar s sp.reset e t.reset := by
  obtain ⟨rfl, hf⟩ := h
  unfold St.reset
  split
  · next c hc => exact absurd hc (hn c)
  · exact ⟨rfl, hf⟩

theorem Sofar.fin (h : Sofar s sp e t) (f) : Refines s f (sp, e, true) (t.raise f) :=
  ⟨(raise_abs t f).trans h.abs, (raise_fx t f).trans h.fx, fun _ => by rw [raise_raised]; simp⟩

theorem Sofar.defer (h : Sofar s sp e t) (hr : t.raised = s.raised) (f) : Refines s f (sp, e, false) t :=
  ⟨h.abs, h.fx, fun hf => by unfold St.isRaised at *; rw [hr]; exact hf⟩
end

theorem signalChild_sofar (s : St) (c g) : Sofar s s.abs [.signal c g] (s.signalChild c g) := by
  rw [signalChild_eq]; exact ⟨rfl, rfl⟩

theorem killReap_sofar {s : St} {c} {ch : Child} (h : s.child? c = some ch) :
    Sofar s { s.abs with cs := .finished 9 } [.kill c, .reaped c 9] (s.killReap c) := by
  rw [killReap_eq h]; exact ⟨rfl, rfl⟩

theorem errHandler_absfx (s : St) : s.errHandler.abs = s.abs ∧ s.errHandler.fx = (if s.errSet then [.errh] else []) ++ s.fx := by
  unfold St.errHandler
  split
  · exact ⟨rfl, fx_emit _ _ rfl⟩
  · exact ⟨rfl, rfl⟩

/-- `St.spawn` from a non-running state, with the behaviour made explicit -/
def St.spawnB (s : St) (b : Beh) : St × Bool :=
  let s := if s.hookSet then s.emit .hook else s
  let idx := s.spawnCount
  let s := { s with spawnCount := idx + 1 }
  match b with
  | .spawnFails => (s.emit .spawnFail, false)
  | _ =>
    let exitAt := match b with | .exitsAfter d => some (s.now + d) | _ => none
    let ch : Child := { id := idx, beh := b, exitAt := exitAt }
    (({ s with cs := .running idx, children := s.children ++ [ch] }).emit (.spawn idx), true)

theorem spawn_eq (s : St) (hn : NotRunning s) : s.spawn = s.spawnB (behAt s) := by
  unfold St.spawn St.spawnB
  split
  · next c hc => exact absurd hc (hn c)
  · have : behAt (if s.hookSet = true then s.emit Obs.hook else s) = behAt s := by split <;> rfl
    simp only [this]
    generalize behAt s = b
    cases b <;> rfl

/-- with the two switches concrete both sides compute (the error handler only matters when the spawn fails) -/
theorem spawnB_switches (s : St) (hook errh : Bool) (b : Beh) :
    let s := { s with hookSet := hook, errSet := errh }
    (if (s.spawnB b).2 then (s.spawnB b).1 else (s.spawnB b).1.errHandler).abs = (s.abs.spawnB b).1 ∧
    (if (s.spawnB b).2 then (s.spawnB b).1 else (s.spawnB b).1.errHandler).fx = (s.abs.spawnB b).2.reverse ++ s.fx := by
  cases b with
  | spawnFails => cases hook <;> cases errh <;> exact ⟨rfl, rfl⟩
  | _ => cases hook <;> exact ⟨rfl, rfl⟩

theorem spawnB_refines (s : St) (b : Beh) :
    (if (s.spawnB b).2 then (s.spawnB b).1 else (s.spawnB b).1.errHandler).abs = (s.abs.spawnB b).1 ∧
    (if (s.spawnB b).2 then (s.spawnB b).1 else (s.spawnB b).1.errHandler).fx = (s.abs.spawnB b).2.reverse ++ s.fx :=
  spawnB_switches s s.hookSet s.errSet b

theorem spawn_refines (s : St) (hn : NotRunning s) :
    (if s.spawn.2 then s.spawn.1 else s.spawn.1.errHandler).abs = s.abs.spawn.1 ∧
    (if s.spawn.2 then s.spawn.1 else s.spawn.1.errHandler).fx = s.abs.spawn.2.reverse ++ s.fx := by
  rw [spawn_eq s hn]
  exact spawnB_refines s (behAt s)

theorem Sofar.spawnFin {s t : St} {sp : Sp} {e : List Obs} (h : Sofar s sp e t) (hn : ∀ c, sp.cs ≠ .running c) (f) :
    Refines s f (sp.spawn.1, e ++ sp.spawn.2, true) (t.spawnFin f) := by
  obtain ⟨rfl, hf⟩ := h
  have e' : t.spawnFin f = (if t.spawn.2 then t.spawn.1 else t.spawn.1.errHandler).raise f := by
    unfold St.spawnFin; split <;> rfl
  obtain ⟨a, b⟩ := spawn_refines t hn
  rw [e']
  exact Sofar.fin ⟨a, by rw [b, hf, List.reverse_append, List.append_assoc]⟩ f

/-- whatever the repairs: the documented machine resolves a `nextEnding` at once whenever nothing is running, which the
    task only does with F6 -/
theorem specStep_noop {cfg : Fixes} {ctl : Ctl} {sp : Sp} (h : Noop cfg ctl sp.cs) : specStep sp ctl = (sp, [], true) := by
  cases ctl <;> cases hcs : sp.cs <;> simp_all [Noop, specStep]

/-- nothing running: the child ended by itself, the timer's message was already on its way -/
theorem continue_idle (s : St) (f : FlagId) (hf4 : s.cfg.f4 = true) (hn : NotRunning s) :
    handle s ⟨.continueTGR, f⟩ = ({ s with onEndRestart := none } : St).reset.spawnFin f := by
  rcases notRunning_iff.1 hn with hcs | ⟨st, hcs⟩ <;> simp [handle, hcs, hf4, St.spawnFin]

/-- **C09 (refinement, one control)** — with the repairs in place, handling a control changes the
    observable state, acts on processes and resolves (or defers) its ticket exactly as documented. -/
theorem handle_refines (s : St) (m : Msg) (hall : s.cfg = Fixes.all)
    (hch : ∀ c, s.cs = .running c → ∃ ch, s.child? c = some ch) :
    (handle s m).abs = (specStep s.abs m.ctl).1 ∧
    (handle s m).fx = (specStep s.abs m.ctl).2.1.reverse ++ s.fx ∧
    (s.isRaised m.done = false → (handle s m).isRaised m.done = (specStep s.abs m.ctl).2.2) := by
  have hf4 : s.cfg.f4 = true := by rw [hall]; rfl
  have hf6 : s.cfg.f6 = true := by rw [hall]; rfl
  have here : Sofar s s.abs [] s := ⟨rfl, rfl⟩
  have running : ∀ {c}, s.cs = .running c → s.abs.cs = .running c := id
  -- `killReap` of a child without a record would log the kill and no `reaped`: `hch` rules that out
  have killed : ∀ {c}, s.cs = .running c → Sofar s { s.abs with cs := .finished 9 } [.kill c, .reaped c 9] (s.killReap c) :=
    fun hc => (hch _ hc).elim fun _ h => killReap_sofar h
  apply handle_cases s m (P := Refines s m.done (specStep s.abs m.ctl))
  case noop =>
    intro hno
    rw [specStep_noop (sp := s.abs) hno]
    exact here.fin _
  case start =>
    intro hm hn
    rw [hm]; simp only [specStep]
    split
    · next c hc => exact absurd hc (hn c)
    · exact (here.reset hn).spawnFin (fun _ => nofun) _
  case stop =>
    intro c hm hc
    rw [hm]; simp only [specStep, running hc]
    exact (killed hc).endFlags.fin _
  case gracefulStop =>
    intro c sig grace hm hc
    rw [hm]; simp only [specStep, running hc]
    exact ((signalChild_sofar s c sig).held _ _ _).defer (procStep_signalChild s c sig).keep _
  case tryRestart =>
    intro c hm hc
    rw [hm]; simp only [specStep, running hc]
    exact ((killed hc).reset fun _ => nofun).endFlags.spawnFin (fun _ => nofun) _
  case tryGracefulRestart =>
    intro c sig grace hm hc
    rw [hm]; simp only [specStep, running hc]
    exact ((signalChild_sofar s c sig).held _ _ _).defer (procStep_signalChild s c sig).keep _
  case continueTGR =>
    intro hm s0 h0
    rw [hm]; simp only [specStep]
    rcases h0 with ⟨hn⟩ | ⟨c, hc⟩
    · rw [if_pos hf4]
      split
      · next c hc => exact absurd hc (hn c)
      · exact ((here.held _ _ _).reset hn).spawnFin (fun _ => nofun) _
    · have hcfg : (s.killReap c).endFlags.cfg = s.cfg := ((procStep_killReap s c).task.trans (taskStep_endFlags _)).keep
      rw [if_pos (hcfg ▸ hf4)]; simp only [running hc]
      exact (((killed hc).endFlags.held _ _ _).reset fun _ => nofun).spawnFin (fun _ => nofun) _
  case signal =>
    intro c sig hm hc
    rw [hm]; simp only [specStep, running hc]
    exact (signalChild_sofar s c sig).fin _
  case delete =>
    intro hm
    rw [hm]; simp only [specStep]
    -- the control's flag is raised first, then `ended` is logged and the job's `gone` flag (0) raised
    have h := (here.fin m.done).2.2
    refine ⟨(raise_abs _ 0).trans (raise_abs s _), ?_, fun hr => ?_⟩
    · rw [raise_fx, fx_emit _ _ rfl]
      exact congrArg _ (raise_fx s _)
    · rw [raise_raised]
      exact (congrArg (· || m.done == 0) (h hr)).trans rfl
  case nextEnding =>
    intro hm hno
    obtain ⟨c, hc⟩ : ∃ c, s.cs = .running c := by
      cases hcs : s.cs with
      | running c => exact ⟨c, rfl⟩
      | pending => exact absurd (by rw [hcs]; exact hf6) hno
      | finished st => exact absurd (by rw [hcs]; trivial) hno
    rw [hm]; simp only [specStep, running hc]
    exact (here.held _ _ _).defer rfl _
  case func =>
    intro id hm
    rw [hm]; simp only [specStep]
    exact (Sofar.mk rfl (fx_emit _ _ rfl)).fin _
  case hook =>
    intro b hm
    rw [hm]
    cases b <;> exact (Sofar.mk rfl rfl).fin _
  case err =>
    intro b hm
    rw [hm]
    cases b <;> exact (Sofar.mk rfl rfl).fin _

/-- documented: the job becomes `finished status`; a pending graceful restart then starts the
    replacement (exactly once) -/
def specExit (sp : Sp) (c : ChildId) (status : Nat) (restartPending : Bool) : Sp × List Obs :=
  let sp1 := { sp with cs := .finished status }
  if restartPending then
    let (sp2, e) := sp1.respawn
    (sp2, [.reaped c status] ++ e)
  else (sp1, [.reaped c status])

def St.statusOf (s : St) (c : ChildId) : Nat := (s.child? c).map (·.status) |>.getD 0

theorem reap_sofar (s : St) (c) : Sofar s { s.abs with cs := .finished (s.statusOf c) } [.reaped c (s.statusOf c)] (s.reap c) := by
  unfold St.reap St.statusOf
  simp only []
  split <;> exact ⟨rfl, rfl⟩

theorem waitBranch_refines (s : St) (c : ChildId) (hall : s.cfg = Fixes.all) :
    (waitBranch s c).abs = (specExit s.abs c (s.statusOf c) s.onEndRestart.isSome).1 ∧
    (waitBranch s c).fx = (specExit s.abs c (s.statusOf c) s.onEndRestart.isSome).2.reverse ++ s.fx := by
  unfold waitBranch
  -- reaped, flags raised: all that is left is a restart, if one is pending
  have hk := ((reap_sofar s c).raiseAll s.stopFlags).endFlags
  have kc : ((s.reap c).raiseAll s.stopFlags).endFlags.cfg = s.cfg :=
    ((taskStep_reap s c).trans ((flagStep_raiseAll _ _).task.trans (taskStep_endFlags _))).keep
  have ke : ((s.reap c).raiseAll s.stopFlags).endFlags.onEndRestart = s.onEndRestart :=
    (te_endFlags _).2.trans ((raiseAll_same _ _).onEndRestart.trans (by rw [reap_eq]; rfl))
  generalize ((s.reap c).raiseAll s.stopFlags).endFlags = k at hk kc ke
  rw [continueRestart_eq (by rw [kc, hall]; rfl), ke]
  cases s.onEndRestart with
  | none => exact ⟨hk.abs, hk.fx⟩
  | some f =>
    have := ((hk.held k.timer k.onEnd none).reset fun _ => nofun).spawnFin (fun _ => nofun) f
    exact ⟨this.1, this.2.1⟩

#print axioms waitBranch_refines

end Jm
