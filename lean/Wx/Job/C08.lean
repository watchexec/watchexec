import Wx.Job.C04
import Wx.Job.C07
/-! C08, the per-job core of a graceful quit (`stop_with_signal(sig, grace); delete().await`):
    when the `Delete` that directly follows a `GracefulStop` in the normal queue is handled, nothing is
    running — so the job task ends with no live process. Needs the repairs (F4: a stale restart slot
    would start a new process after the stop). -/
namespace Jm

/-! only `recv` on the normal queue writes the ghost `lastNormal` -/
@[simp] theorem emit_ln (s : St) (o) : (s.emit o).lastNormal = s.lastNormal := rfl
@[simp] theorem setChild_ln (s : St) (ch) : (s.setChild ch).lastNormal = s.lastNormal := rfl

theorem handle_ln (s : St) (m : Msg) : (handle s m).lastNormal = s.lastNormal := (taskStep_handle s m).keep

def isGS : Option Ctl → Bool
  | some (.gracefulStop _ _) => true
  | _ => false

/-- a graceful stop is under way or over: nothing will be restarted (empty slot, no restart timer) and, once the timer is
    gone, nothing runs -/
def Stopping (s : St) : Prop :=
  s.onEndRestart = none ∧ (∀ t, s.timer = some t → t.isRestart = false) ∧ (s.timer = none → NotRunning s)

/-- `P` holds if the last normal control returned was of kind `k`: by `Since.turns`, from its handling until the next normal control -/
def Since (k : Option Ctl → Bool) (P : St → Prop) (s : St) : Prop := k s.lastNormal = true → P s

/-- `Stopping`, after a graceful stop and until the next normal control -/
abbrev QB := Since isGS Stopping

/-- A step that leaves the ghost, the timer and the restart slot alone and starts no process. `QB` (and `QS` of
    C08b) survive such a step; everything the simulator does besides task turns is one, and so is the handling
    of what the API can put on the urgent or the high queue (`Shapes`: `calm_prio`). -/
structure Calm (t s : St) : Prop where
  ln : t.lastNormal = s.lastNormal
  timer : t.timer = s.timer
  restart : t.onEndRestart = s.onEndRestart
  cs : t.cs = s.cs ∨ NotRunning t

theorem Calm.of_view {t s : St}
    (h : (t.lastNormal, t.timer, t.onEndRestart, t.cs) = (s.lastNormal, s.timer, s.onEndRestart, s.cs)) : Calm t s := by
  simp only [Prod.mk.injEq] at h
  exact ⟨h.1, h.2.1, h.2.2.1, Or.inl h.2.2.2⟩

theorem Calm.notRunning {t s : St} (h : Calm t s) (hn : NotRunning s) : NotRunning t :=
  h.cs.elim (fun e => notRunning_of_cs e hn) id

theorem Calm.trans {a b c : St} (h1 : Calm a b) (h2 : Calm b c) : Calm a c :=
  ⟨h1.ln.trans h2.ln, h1.timer.trans h2.timer, h1.restart.trans h2.restart,
    h1.cs.elim (fun e => h2.cs.imp (e.trans ·) (notRunning_of_cs e)) Or.inr⟩

theorem FlagStep.calm {s t : St} (h : FlagStep s t) : Calm t s := by
  rw [h]; exact .of_view rfl

theorem ProcStep.calm {s t : St} (h : ProcStep s t) (hn : NotRunning t) : Calm t s :=
  ⟨h.keep, h.keep, h.keep, Or.inr hn⟩

theorem calm_endFlags (s : St) : Calm s.endFlags s :=
  Calm.trans (b := s.raiseAll s.onEnd) (.of_view rfl) (flagStep_raiseAll s s.onEnd).calm

theorem stopping_calm {t s : St} (c : Calm t s) (h : Stopping s) : Stopping t :=
  ⟨c.restart.trans h.1, fun x hx => h.2.1 x (c.timer ▸ hx), fun hx => c.notRunning (h.2.2 (c.timer ▸ hx))⟩

section
variable {k : Option Ctl → Bool} {P : St → Prop}

theorem Since.step {t s : St} (hln : t.lastNormal = s.lastNormal) (hst : P s → P t) (h : Since k P s) : Since k P t :=
  fun hg => hst (h (hln ▸ hg))

theorem Since.calm (hP : ∀ {t s : St}, Calm t s → P s → P t) {t s : St} (c : Calm t s) (h : Since k P s) : Since k P t :=
  h.step c.ln (hP c)
end

theorem qb_calm {t s : St} (c : Calm t s) (h : QB s) : QB t := h.calm stopping_calm c

theorem SimInv.calm {I J : St → Prop} {Ok : Prio → Ctl → Prop} (H : SimInv I Ok) (hc : ∀ {t s}, Calm t s → J s → J t)
    (step : ∀ s, I s → J s → ∀ s' ∈ Jm.turns s, J s') : SimInv (fun s => I s ∧ J s) Ok where
  turns := fun s h s' hs' => ⟨H.turns s h.1 s' hs', step s h.1 h.2 s' hs'⟩
  park := fun s h => ⟨H.park s h.1, hc (by unfold Jm.park; split <;> exact .of_view rfl) h.2⟩
  drain := fun s h => ⟨H.drain s h.1, hc (waitStep_drainPolls s).flag.calm h.2⟩
  now := fun s t h => ⟨H.now s t h.1, hc (s := s) (.of_view rfl) h.2⟩
  enqueue := fun s p m hm h => ⟨H.enqueue s p m hm h.1, hc (s := s) (by cases p <;> exact .of_view rfl) h.2⟩
  emit := fun s o h => ⟨H.emit s o h.1, hc (s := s) (.of_view rfl) h.2⟩
  newWaiter := fun s w f h => ⟨H.newWaiter s w f h.1, hc (s := s) ((waitStep_pollWaiter _ w).flag.calm.trans (.of_view rfl)) h.2⟩
  close := fun s h => ⟨H.close s h.1, hc (s := s) (.of_view rfl) h.2⟩

theorem stop_effect (s : St) (f : FlagId) (hinv : Inv s) :
    Calm (handle s ⟨.stop, f⟩) s ∧ NotRunning (handle s ⟨.stop, f⟩) := by
  cases hcs : s.cs with
  | running c =>
    simp only [handle, hcs]
    have hk := (inv_killReap hinv hcs).2
    have h : Calm ((s.killReap c).endFlags.raise f) (s.killReap c) := (flagStep_raise _ f).calm.trans (calm_endFlags _)
    exact ⟨h.trans ((procStep_killReap s c).calm hk), h.notRunning hk⟩
  | _ =>
    simp only [handle, hcs]
    exact ⟨(flagStep_raise s f).calm, (flagStep_raise s f).calm.notRunning (by simp [NotRunning, hcs])⟩

theorem calm_handle {s : St} {m : Msg} (hinv : Inv s) (hm : m.ctl = .stop ∨ m.ctl = .delete ∨ m.ctl = .nextEnding) :
    Calm (handle s m) s := by
  obtain ⟨ctl, f⟩ := m
  dsimp only at hm
  rcases hm with rfl | rfl | rfl
  · exact (stop_effect s f hinv).1
  · exact (flagStep_raise _ 0).calm.trans (Calm.trans (b := s.raise f) (.of_view rfl) (flagStep_raise s f).calm)
  · unfold handle
    simp only []
    split
    · exact (flagStep_raise s f).calm
    · split
      · exact (flagStep_raise s f).calm
      · exact .of_view rfl
    · exact .of_view rfl

theorem calm_prio {s s1 : St} {src : Src} {m : Msg} (hinv : Inv s) (hsh : Shapes s) (ht : Take s src m s1)
    (hsrc : src = .urgent ∨ src = .high) : Calm (handle { s1 with parked := false } m) s := by
  cases ht with
  | timer => rcases hsrc with h | h <;> cases h
  | normal => rcases hsrc with h | h <;> cases h
  | urgent m r hq =>
    have hm := hsh.1 m (hq ▸ List.mem_cons_self)
    exact Calm.trans (calm_handle (hinv.congr) (hm.imp_right Or.inl)) (.of_view rfl)
  | high m r hq =>
    have hm := hsh.2 m (hq ▸ List.mem_cons_self)
    exact Calm.trans (calm_handle (hinv.congr) (Or.inr (Or.inr hm))) (.of_view rfl)

/-- controls from the urgent and the high queue are handled calmly, and so is the end of the task -/
theorem Since.turns {k : Option Ctl → Bool} {P : St → Prop} (hP : ∀ {t s : St}, Calm t s → P s → P t) {s : St} (hinv : Inv s)
    (hsh : Shapes s) (wait : ∀ c, waitReady s = some c → P s → P (waitBranch { s with parked := false } c))
    (timer : ∀ m s1, Take s .timer m s1 → P s → P (handle { s1 with parked := false } m))
    (normal : ∀ m s1, Src.normal ∈ recvCandidates s → Take s .normal m s1 → k (some m.ctl) = true →
      P (handle { s1 with parked := false } m))
    (h : Since k P s) : ∀ s' ∈ turns s, Since k P s' := by
  refine turns_cases s ?wait ?recv ?closed
  case wait => exact fun c hc => h.step (s := s) (taskStep_waitBranch _ c).keep (wait c hc)
  case closed =>
    intro _
    refine h.calm hP ?_
    unfold St.closedEnd
    split
    · exact (flagStep_raise _ 0).calm.trans (.of_view rfl)
    · exact .of_view rfl
  case recv =>
    intro src m s1 hsrc ht
    cases src with
    | timer => exact h.step ((handle_ln _ _).trans (by cases ht; rfl)) (timer m s1 ht)
    | urgent => exact h.calm hP (calm_prio hinv hsh ht (.inl rfl))
    | high => exact h.calm hP (calm_prio hinv hsh ht (.inr rfl))
    | normal => exact fun hg => normal m s1 hsrc ht (by rw [handle_ln] at hg; cases ht; exact hg)

theorem gs_effect (s : St) (sig : Sig) (grace : Nat) (f : FlagId) (htm : s.timer = none) (hoe : s.onEndRestart = none) :
    Stopping (handle s ⟨.gracefulStop sig grace, f⟩) := by
  cases hcs : s.cs with
  | running c =>
    simp only [handle, hcs]
    exact ⟨((procStep_signalChild s c sig).keep (π := St.onEndRestart)).trans hoe,
      fun x hx => (by cases hx; rfl), fun hx => (by cases hx)⟩
  | _ =>
    simp only [handle, hcs]
    exact stopping_calm (flagStep_raise s f).calm
      ⟨hoe, fun x hx => (by rw [htm] at hx; cases hx), fun _ => (by simp [NotRunning, hcs])⟩

theorem waitBranch_effect {s : St} {c : ChildId} (hinv : Inv s) (hc : s.cs = .running c) (ho : s.onEndRestart = none) :
    Stopping (waitBranch s c) := by
  unfold waitBranch
  have e := reap_eq s c
  have hA : Calm ((s.reap c).raiseAll s.stopFlags).endFlags (s.reap c) :=
    (calm_endFlags _).trans (flagStep_raiseAll _ _).calm
  have ho' : ((s.reap c).raiseAll s.stopFlags).endFlags.onEndRestart = none := hA.restart.trans (by rw [e]; exact ho)
  rw [continueRestart_none ho']
  exact ⟨ho', fun t ht => (by rw [hA.timer, e] at ht; cases ht), fun _ => hA.notRunning (inv_reap hinv hc).2⟩

theorem qb_turns {s : St} (hinv : Inv s) (h7 : Inv7 s) (h : QB s) : ∀ s' ∈ turns s, QB s' := by
  refine h.turns stopping_calm hinv h7.good.sh ?wait ?timer ?normal
  case wait => exact fun c hrun hst => waitBranch_effect (hinv.congr) (waitReady_running hrun) hst.1
  case timer =>
    -- a stop timer: the child is killed now
    intro m s1 ht hst
    cases ht with
    | timer t htm =>
      simp only [hst.2.1 t htm, Bool.false_eq_true, if_false]
      obtain ⟨e, hn⟩ := stop_effect { s with timer := none, parked := false } t.done (hinv.congr)
      exact ⟨e.restart.trans hst.1, fun x hx => (by cases e.timer.symm.trans hx), fun _ => hn⟩
  case normal =>
    -- a normal control is only returned with no timer armed; `Coupled` then gives an empty restart slot
    intro m s1 hsrc ht hg
    have htm : s.timer = none := normal_cand' hsrc
    have hoe : s.onEndRestart = none := h7.cp.slot_none htm
    obtain ⟨ctl, f⟩ := m
    cases ctl with
    | gracefulStop sig grace => cases ht; exact gs_effect _ sig grace f htm hoe
    | _ => cases hg

theorem i8_simInv : SimInv (fun s => (Inv s ∧ Inv7 s) ∧ QB s) ShapeOk :=
  (c04_simInv.and inv7_simInv fun _ _ h => ⟨trivial, h⟩).calm qb_calm fun _ h => qb_turns h.1 h.2

/-- **C08 (per job, graceful quit)** — with the repairs, for every script of API-shaped operations,
    every child behaviour and every race: whenever `recv` is about to return a `Delete` that was queued
    directly behind a `GracefulStop` (that is what `stop_with_signal(..); delete()` sends), no process
    is running and none is un-reaped; handling it ends the task. -/
theorem c08_delete_idle (behs : List Beh) (ops : List Op) (hok : ∀ o ∈ ops, OpOkFor ShapeOk o) :
    ∀ y ∈ runOps { st := { cfg := Fixes.all, behs := behs, hookSet := true, parked := true } } ops,
      ∀ f r, Src.normal ∈ recvCandidates y.st → y.st.normal = ⟨.delete, f⟩ :: r → isGS y.st.lastNormal = true →
        NotRunning y.st ∧ y.st.live = [] ∧ (handle y.st ⟨.delete, f⟩).alive = false := by
  intro y hy f r hcand hq hg
  obtain ⟨⟨hinv, h7⟩, hqb⟩ := i8_simInv.runOps ops hok (x := { st := { cfg := Fixes.all, behs := behs, hookSet := true, parked := true } })
    ⟨⟨inv_init _ behs, inv7_init behs⟩, fun hg => by simp [isGS] at hg⟩ y hy
  have hn : NotRunning y.st := (hqb hg).2.2 (normal_cand' hcand)
  exact ⟨hn, live_nil hinv hn, (handle_alive _ ⟨.delete, f⟩).1 rfl⟩

#print axioms c08_delete_idle

/-- unrepaired (F4): a graceful restart whose grace expired leaves the restart slot set; the quit's graceful
    stop then ends the replacement, the stale slot starts a third process, and `Delete` ends the task
    with that process running -/
theorem c08_fails_today :
    (runOps { st := { behs := [.ignores, .exitsAfterSignal 5, .ignores], hookSet := false, parked := true } }
      [.send .normal [.start] false, .settle, .send .normal [.tryGracefulRestart 15 10] false, .advance 50,
       .send .normal [.gracefulStop 15 10] false, .send .normal [.delete] true, .advance 100]).map
      (fun x => (x.st.alive, x.st.live)) = [(false, [2])] := by decide

theorem c08_same_script_fixed :
    (runOps { st := { cfg := Fixes.all, behs := [.ignores, .exitsAfterSignal 5, .ignores], hookSet := false, parked := true } }
      [.send .normal [.start] false, .settle, .send .normal [.tryGracefulRestart 15 10] false, .advance 50,
       .send .normal [.gracefulStop 15 10] false, .send .normal [.delete] true, .advance 100]).map
      (fun x => (x.st.alive, x.st.live)) = [(false, [])] := by decide
end Jm
