import Wx.Job.C08
/-! C08, the shape the library really sends on a graceful quit: `stop_with_signal` = [GracefulStop],
    then `delete()` = [Stop, Delete], all normal priority. When that `Delete` is handled nothing is
    running — for EVERY fix configuration, the unrepaired code included. -/
namespace Jm

def isStop : Option Ctl → Bool
  | some .stop => true
  | _ => false

/-- after a `Stop` and until the next normal control: no timer is armed and nothing runs -/
abbrev QS := Since isStop fun s => s.timer = none ∧ NotRunning s

theorem idle_calm {t s : St} (c : Calm t s) (h : s.timer = none ∧ NotRunning s) : t.timer = none ∧ NotRunning t :=
  ⟨c.timer.trans h.1, c.notRunning h.2⟩

theorem qs_calm {t s : St} (c : Calm t s) (h : QS s) : QS t := h.calm idle_calm c

theorem qs_turns {s : St} (hinv : Inv s) (hsh : Shapes s) (h : QS s) : ∀ s' ∈ turns s, QS s' := by
  refine h.turns idle_calm hinv hsh ?wait ?timer ?normal
  -- nothing is running, so no child can end; no timer is armed, so none fires
  case wait => exact fun c hrun hs => absurd (waitReady_running hrun) (hs.2 c)
  case timer => exact fun m s1 ht hs => by cases ht with | timer t htm => cases hs.1.symm.trans htm
  case normal =>
    intro m s1 hsrc ht hg
    obtain ⟨ctl, f⟩ := m
    cases ctl with
    | stop =>
      have htm : s1.timer = none := (by cases ht; rfl : s1.timer = s.timer).trans (normal_cand' hsrc)
      obtain ⟨e, hn⟩ := stop_effect { s1 with parked := false } f (by cases ht; exact hinv.congr)
      exact ⟨e.timer.trans htm, hn⟩
    | _ => cases hg

theorem i8b_simInv : SimInv (fun s => (Inv s ∧ Shapes s) ∧ QS s) ShapeOk :=
  (c04_simInv.and shapes_simInv fun _ _ h => ⟨trivial, h⟩).calm qs_calm fun _ h => qs_turns h.1 h.2

/-- **C08 (per job, the library's quit sequence)** — for EVERY fix configuration (so for the code as it
    is), every script of API-shaped operations, every child behaviour and every race: whenever `recv` is
    about to return a `Delete` queued directly behind a `Stop` (`Job::delete()` sends exactly
    `[Stop, Delete]`), nothing is running, nothing is un-reaped, and handling it ends the task. -/
theorem c08_delete_after_stop (cfg : Fixes) (behs : List Beh) (ops : List Op) (hok : ∀ o ∈ ops, OpOkFor ShapeOk o) :
    ∀ y ∈ runOps { st := { cfg := cfg, behs := behs, hookSet := true, parked := true } } ops,
      ∀ f r, y.st.normal = ⟨.delete, f⟩ :: r → isStop y.st.lastNormal = true →
        NotRunning y.st ∧ y.st.live = [] ∧ (handle y.st ⟨.delete, f⟩).alive = false := by
  intro y hy f r hq hg
  obtain ⟨⟨hinv, -⟩, hqs⟩ := i8b_simInv.runOps ops hok (x := { st := { cfg := cfg, behs := behs, hookSet := true, parked := true } })
    ⟨⟨inv_init cfg behs, ⟨by simp, by simp⟩⟩, fun hg => by simp [isStop] at hg⟩ y hy
  exact ⟨(hqs hg).2, live_nil hinv (hqs hg).2, (handle_alive _ ⟨.delete, f⟩).1 rfl⟩

#print axioms c08_delete_after_stop
end Jm
