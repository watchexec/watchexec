import Wx.Job.SimInduct
/-! C07 on the full model with all repairs: no control flag is ever lost — for every state the simulator reaches
    with API-shaped sends. -/
namespace Jm

def St.pending (s : St) : List FlagId := (s.normal ++ s.high ++ s.urgent).map (·.done)

def timerFlag : Option Timer → List FlagId
  | some t => [t.done]
  | none => []

def St.held (s : St) : List FlagId := timerFlag s.timer ++ s.onEnd ++ s.onEndRestart.toList

/-- flag `f` is accounted for: still queued, already raised, or held for a later release -/
def Acc (s : St) (f : FlagId) : Prop := f ∈ s.pending ∨ s.isRaised f = true ∨ f ∈ s.held

/-- every issued flag is accounted for, except possibly the one of the message in flight -/
def NoLostX (x : Option FlagId) (s : St) : Prop := ∀ f ∈ s.issued, Acc s f ∨ x = some f
abbrev NoLost := NoLostX none

theorem noLost_iff {s : St} : NoLost s ↔ ∀ f ∈ s.issued, f ∈ s.pending ∨ s.isRaised f = true ∨ f ∈ s.held :=
  forall₂_congr fun _ _ => or_iff_left nofun

/-- the restart flag lives exactly as long as its restart timer (needs repair F4) -/
def Coupled (s : St) : Prop :=
  (∀ f, s.onEndRestart = some f → ∃ t, s.timer = some t ∧ t.isRestart = true ∧ t.done = f) ∧
  (∀ t, s.timer = some t → t.isRestart = true → s.onEndRestart = some t.done)

/-- only what the public API can put there -/
def Shapes (s : St) : Prop :=
  (∀ m ∈ s.urgent, m.ctl = .stop ∨ m.ctl = .delete) ∧ (∀ m ∈ s.high, m.ctl = .nextEnding)

/-- the fields the C07 invariants read, `raised` apart -/
structure Same (t s : St) : Prop where
  normal : t.normal = s.normal
  high : t.high = s.high
  urgent : t.urgent = s.urgent
  timer : t.timer = s.timer
  onEnd : t.onEnd = s.onEnd
  onEndRestart : t.onEndRestart = s.onEndRestart
  issued : t.issued = s.issued
  cfg : t.cfg = s.cfg

theorem Same.trans {a b c : St} (h1 : Same a b) (h2 : Same b c) : Same a c :=
  ⟨h1.normal.trans h2.normal, h1.high.trans h2.high, h1.urgent.trans h2.urgent, h1.timer.trans h2.timer,
   h1.onEnd.trans h2.onEnd, h1.onEndRestart.trans h2.onEndRestart, h1.issued.trans h2.issued,
   h1.cfg.trans h2.cfg⟩

def Quiet (t s : St) : Prop := Same t s ∧ t.raised = s.raised

theorem Quiet.trans {a b c : St} (h1 : Quiet a b) (h2 : Quiet b c) : Quiet a c :=
  ⟨h1.1.trans h2.1, h1.2.trans h2.2⟩

/-- all that the C07 invariants read -/
def St.flagView (s : St) := (s.normal, s.high, s.urgent, s.timer, s.onEnd, s.onEndRestart, s.issued, s.cfg, s.raised)

theorem Quiet.of_view {t s : St} (h : t.flagView = s.flagView) : Quiet t s := by
  simp only [St.flagView, Prod.mk.injEq] at h
  obtain ⟨a, b, c, d, e, f, g, i, j⟩ := h
  exact ⟨⟨a, b, c, d, e, f, g, i⟩, j⟩

theorem FlagStep.same {s t : St} (h : FlagStep s t) : Same t s := by
  rw [h]; exact ⟨rfl, rfl, rfl, rfl, rfl, rfl, rfl, rfl⟩
theorem WaitStep.quiet {s t : St} (h : WaitStep s t) : Quiet t s := by
  rw [h]; exact (.of_view rfl)
theorem ProcStep.quiet {s t : St} (h : ProcStep s t) : Quiet t s := by
  rw [h]; exact (.of_view rfl)

theorem raise_same (s : St) (f) : Same (s.raise f) s := (flagStep_raise s f).same
theorem raiseAll_same (fs : List FlagId) (s : St) : Same (s.raiseAll fs) s := (flagStep_raiseAll s fs).same

theorem raise_raised (s : St) (f g) : (s.raise f).isRaised g = (s.isRaised g || g == f) := by
  have : (s.raise f).raised = if s.raised.contains f then s.raised else f :: s.raised :=
    (waitStep_foldl waitStep_resolveWaiter _ _).keep
  unfold St.isRaised
  rw [this]
  by_cases h : s.raised.contains f = true <;> by_cases hg : g = f <;> simp_all [Bool.or_comm]

theorem raiseAll_raised (fs : List FlagId) (s : St) (g) :
    (s.raiseAll fs).isRaised g = (s.isRaised g || fs.contains g) := by
  unfold St.raiseAll
  induction fs generalizing s with
  | nil => simp
  | cons f fs ih =>
    simp only [List.foldl_cons, ih, raise_raised, List.contains_cons]
    cases s.isRaised g <;> cases (g == f) <;> simp

theorem held_same {t s : St} (h : Same t s) : t.held = s.held := by
  unfold St.held; rw [h.timer, h.onEnd, h.onEndRestart]

theorem shapes_queues {t s : St} (hu : t.urgent = s.urgent) (hh : t.high = s.high) (h : Shapes s) : Shapes t := by
  unfold Shapes at *; rw [hu, hh]; exact h

theorem mem_held {s : St} {g : FlagId} :
    g ∈ s.held ↔ (∃ t, s.timer = some t ∧ t.done = g) ∨ g ∈ s.onEnd ∨ s.onEndRestart = some g := by
  unfold St.held
  cases s.timer <;> cases s.onEndRestart <;> simp [timerFlag, eq_comm]

/-- `Inv7X` without `Coupled`, which `recv` breaks when it takes a restart timer away from its slot (`Mid`) -/
structure Good (x : Option FlagId) (s : St) : Prop where
  nl : NoLostX x s
  sh : Shapes s

/-- where a flag that has left the queues is: raised, held by the timer, `on_end` or the restart slot, or in flight as `x` -/
inductive Kept (x : Option FlagId) (s : St) (g : FlagId) : Prop
  | raised (h : s.isRaised g = true)
  | timer {t : Timer} (h : s.timer = some t) (hd : t.done = g)
  | onEnd (h : g ∈ s.onEnd)
  | slot (h : s.onEndRestart = some g)
  | flight (h : x = some g)

theorem kept_iff {x} {s : St} {g} : Kept x s g ↔ s.isRaised g = true ∨ g ∈ s.held ∨ x = some g := by
  rw [mem_held]
  constructor
  · intro k
    cases k with
    | raised h => exact .inl h
    | timer h hd => exact .inr (.inl (.inl ⟨_, h, hd⟩))
    | onEnd h => exact .inr (.inl (.inr (.inl h)))
    | slot h => exact .inr (.inl (.inr (.inr h)))
    | flight h => exact .inr (.inr h)
  · rintro (h | (⟨t, h, hd⟩ | h | h) | h)
    · exact .raised h
    · exact .timer h hd
    · exact .onEnd h
    · exact .slot h
    · exact .flight h

theorem acc_iff {x} {s : St} {g} : Acc s g ∨ x = some g ↔ g ∈ s.pending ∨ Kept x s g := by
  rw [kept_iff, Acc, or_assoc, or_assoc]

theorem Kept.move {x y} {t s : St} {g} (ht : t.timer = s.timer) (ho : t.onEnd = s.onEnd) (hs : t.onEndRestart = s.onEndRestart)
    (hr : s.isRaised g = true → t.isRaised g = true) (hx : x = some g → Kept y t g) (k : Kept x s g) : Kept y t g := by
  cases k with
  | raised k => exact .raised (hr k)
  | timer k hd => exact .timer (ht.trans k) hd
  | onEnd k => exact .onEnd (ho ▸ k)
  | slot k => exact .slot (hs.trans k)
  | flight k => exact hx k

theorem Kept.same {x y} {t s : St} {g} (h : Same t s) : (s.isRaised g = true → t.isRaised g = true) →
    (x = some g → Kept y t g) → Kept x s g → Kept y t g :=
  .move h.timer h.onEnd h.onEndRestart

theorem Good.move {x y} {s t : St} (hg : Good x s) (h : ∀ g, Kept x s g → Kept y t g) (hn : t.normal = s.normal := by rfl)
    (hh : t.high = s.high := by rfl) (hu : t.urgent = s.urgent := by rfl) (hi : t.issued = s.issued := by rfl) : Good y t := by
  refine ⟨fun g hgi => ?_, shapes_queues hu hh hg.sh⟩
  have hp : t.pending = s.pending := by unfold St.pending; rw [hn, hh, hu]
  rw [acc_iff, hp]
  exact (acc_iff.1 (hg.nl g (hi ▸ hgi))).imp_right (h g)

theorem good_same {t s : St} {x} (h : Same t s) (hr : ∀ g, s.isRaised g = true → t.isRaised g = true)
    (hg : Good x s) : Good x t :=
  hg.move (fun g => .same h (hr g) .flight) h.normal h.high h.urgent h.issued

theorem good_quiet {t s : St} {x} (h : Quiet t s) (hg : Good x s) : Good x t :=
  good_same h.1 (fun g hgr => by simpa [St.isRaised, h.2] using hgr) hg

theorem raise_keeps_raised {s : St} {g} (f) (h : s.isRaised g = true) : (s.raise f).isRaised g = true := by
  rw [raise_raised, h]; rfl

theorem good_raise {s : St} {x} (f) (hg : Good x s) : Good x (s.raise f) :=
  good_same (raise_same s f) (fun _ => raise_keeps_raised f) hg

theorem good_fin {s : St} {f} (hg : Good (some f) s) : Good none (s.raise f) := by
  have h := raise_same s f
  exact hg.move (fun g => .same h (raise_keeps_raised f) fun e => .raised (by cases e; rw [raise_raised]; simp))
    h.normal h.high h.urgent h.issued

theorem good_raiseAll {x} (fs : List FlagId) {s : St} (hg : Good x s) : Good x (s.raiseAll fs) := by
  unfold St.raiseAll
  induction fs generalizing s with
  | nil => exact hg
  | cons f fs ih => exact ih (good_raise f hg)

theorem good_endFlags {s : St} {x} (hg : Good x s) : Good x s.endFlags := by
  have hs := raiseAll_same s.onEnd s
  have hr : ∀ g, s.endFlags.isRaised g = (s.isRaised g || s.onEnd.contains g) := raiseAll_raised s.onEnd s
  refine hg.move (fun g k => ?_) hs.normal hs.high hs.urgent hs.issued
  cases k with
  | raised k => exact .raised (by rw [hr, k]; rfl)
  | timer k hd => exact .timer (hs.timer.trans k) hd
  | onEnd k => exact .raised (by rw [hr]; simp [k])
  | slot k => exact .slot (hs.onEndRestart.trans k)
  | flight k => exact .flight k

/-- the two fields `Coupled` reads -/
def TE (t s : St) : Prop := t.timer = s.timer ∧ t.onEndRestart = s.onEndRestart
theorem TE.refl (s : St) : TE s s := ⟨rfl, rfl⟩
theorem coupled_te {t s : St} (h : TE t s) (hc : Coupled s) : Coupled t := by
  unfold Coupled at *; rw [h.1, h.2]; exact hc
theorem coupled_same {t s : St} (h : Same t s) : Coupled s → Coupled t := coupled_te ⟨h.timer, h.onEndRestart⟩

theorem Coupled.slot_none {s : St} (h : Coupled s) (htm : s.timer = none) : s.onEndRestart = none := by
  cases ho : s.onEndRestart with
  | none => rfl
  | some f => obtain ⟨t, ht, -⟩ := h.1 f ho; rw [htm] at ht; cases ht
theorem te_endFlags (s : St) : TE s.endFlags s := ⟨(raiseAll_same s.onEnd s).timer, (raiseAll_same s.onEnd s).onEndRestart⟩

/-- what the receive logic guarantees about the message it hands to `handle` -/
structure Pre (s : St) (m : Msg) : Prop where
  graceful : (∃ g r, m.ctl = .gracefulStop g r ∨ m.ctl = .tryGracefulRestart g r) → s.timer = none ∧ s.onEndRestart = none
  cont : m.ctl = .continueTGR → s.timer = none ∧ ∀ f, s.onEndRestart = some f → f = m.done

/-- the invariant: between two turns with `x = none`, inside one with `x` the flag of the control being handled, which is
    in nobody's hands then -/
structure Inv7X (x : Option FlagId) (s : St) : Prop where
  cfg : s.cfg = Fixes.all
  good : Good x s
  cp : Coupled s

abbrev Inv7 := Inv7X none
abbrev InFlight (f : FlagId) := Inv7X (some f)

theorem Inv7X.quiet {x} {t s : St} (hi : Inv7X x s) (h : Quiet t s) : Inv7X x t :=
  ⟨h.1.cfg.trans hi.cfg, good_quiet h hi.good, coupled_same h.1 hi.cp⟩

theorem Inv7X.endFlags {x} {s : St} (hi : Inv7X x s) : Inv7X x s.endFlags :=
  ⟨(raiseAll_same _ s).cfg.trans hi.cfg, good_endFlags hi.good, coupled_te (te_endFlags s) hi.cp⟩

theorem Inv7X.fin {f} {s : St} (hi : InFlight f s) : Inv7 (s.raise f) :=
  ⟨(raise_same s f).cfg.trans hi.cfg, good_fin hi.good, coupled_same (raise_same s f) hi.cp⟩

theorem Inv7X.spawnFin {f} {s : St} (hi : InFlight f s) : Inv7 (s.spawnFin f) := by
  unfold St.spawnFin
  split
  · exact (hi.quiet (procStep_spawn s).quiet).fin
  · exact ((hi.quiet (procStep_spawn s).quiet).quiet (waitStep_errHandler _).quiet).fin

theorem Inv7X.respawn {f} {s : St} (hi : InFlight f s) : Inv7 (s.reset.spawnFin f) :=
  (hi.quiet (procStep_reset s).quiet).spawnFin

theorem Inv7X.raise {x} {s : St} (hi : Inv7X x s) (f) : Inv7X x (s.raise f) :=
  ⟨(raise_same s f).cfg.trans hi.cfg, good_raise f hi.good, coupled_same (raise_same s f) hi.cp⟩

/-- both graceful controls: `gracefulStop` leaves the empty slot alone (`r = false`, `oe` the old slot), `tryGracefulRestart`
    writes `some f` -/
theorem Inv7X.arm {f} {s : St} (hi : InFlight f s) (ht : s.timer = none) (ho : s.onEndRestart = none) (u : Nat) (r : Bool)
    {oe : Option FlagId} (hoe : oe = if r then some f else none) :
    Inv7 { s with timer := some ⟨u, f, r⟩, onEndRestart := oe } := by
  refine ⟨hi.cfg, hi.good.move fun g k => ?_, ?_⟩
  · cases k with
    | raised h => exact .raised h
    | timer h => rw [ht] at h; cases h
    | onEnd h => exact .onEnd h
    | slot h => rw [ho] at h; cases h
    | flight h => cases h; exact .timer rfl rfl
  · subst hoe
    cases r
    · exact ⟨fun f' h => (by cases h), fun t h hr => (by cases h; cases hr)⟩
    · exact ⟨fun f' h => (by cases h; exact ⟨_, rfl, rfl, rfl⟩), fun t h _ => (by cases h; rfl)⟩

theorem inFlight_clear {f : FlagId} {x : Option FlagId} {s : St} (hc : s.cfg = Fixes.all) (hg : Good x s)
    (hx : x = none ∨ x = some f) (ht : s.timer = none) (ho : ∀ g, s.onEndRestart = some g → g = f) :
    InFlight f { s with onEndRestart := none } := by
  refine ⟨hc, hg.move fun g k => ?_, fun g hg => (by cases hg), fun t ht' _ => ?_⟩
  · cases k with
    | raised h => exact .raised h
    | timer h hd => exact .timer h hd
    | onEnd h => exact .onEnd h
    | slot h => exact .flight (by rw [ho g h])
    | flight h => exact .flight (hx.elim (fun e => by rw [e] at h; cases h) fun e => e ▸ h)
  · rw [show ({ s with onEndRestart := none } : St).timer = s.timer from rfl, ht] at ht'; cases ht'

/-- the state `handle` is given: the flag of `m` in flight, the timer possibly just taken away from its restart slot -/
structure Mid (s : St) (m : Msg) : Prop where
  cfg : s.cfg = Fixes.all
  good : Good (some m.done) s
  pre : Pre s m
  cp : m.ctl = .continueTGR ∨ Coupled s

theorem Mid.inFlight {s : St} {m : Msg} (h : Mid s m) (hm : m.ctl ≠ .continueTGR) : InFlight m.done s :=
  ⟨h.cfg, h.good, h.cp.resolve_left hm⟩

theorem Mid.clear {s : St} {m : Msg} (h : Mid s m) (hm : m.ctl = .continueTGR) :
    InFlight m.done { s with onEndRestart := none } :=
  inFlight_clear h.cfg h.good (Or.inr rfl) (h.pre.cont hm).1 (h.pre.cont hm).2

theorem inv7_handle {s : St} {m : Msg} (h : Mid s m) : Inv7 (handle s m) := by
  have fl : ∀ {c : Ctl}, m.ctl = c → c ≠ .continueTGR → InFlight m.done s := fun hm hc => h.inFlight (hm ▸ hc)
  apply handle_cases s m
  case noop =>
    intro hno
    refine (h.inFlight fun e => ?_).fin
    rw [e] at hno; exact hno
  case start => exact fun hm _ => (fl hm (by simp)).respawn
  case stop => exact fun c hm _ => ((fl hm (by simp)).quiet (procStep_killReap s c).quiet).endFlags.fin
  case gracefulStop =>
    intro c sig grace hm _
    have q := (procStep_signalChild s c sig).quiet
    obtain ⟨ht, ho⟩ := h.pre.graceful ⟨sig, grace, Or.inl hm⟩
    exact ((fl hm (by simp)).quiet q).arm (q.1.timer.trans ht) (q.1.onEndRestart.trans ho) _ false (q.1.onEndRestart.trans ho)
  case tryRestart =>
    exact fun c hm _ => (((fl hm (by simp)).quiet ((procStep_killReap s c).trans (procStep_reset _)).quiet).endFlags).spawnFin
  case tryGracefulRestart =>
    intro c sig grace hm _
    have q := (procStep_signalChild s c sig).quiet
    obtain ⟨ht, ho⟩ := h.pre.graceful ⟨sig, grace, Or.inr hm⟩
    exact ((fl hm (by simp)).quiet q).arm (q.1.timer.trans ht) (q.1.onEndRestart.trans ho) _ true rfl
  case continueTGR =>
    -- the timer is gone; the restart slot holds at most the flag in flight, and repair F4 empties it
    intro hm s0 h0
    obtain ⟨ht, ho⟩ := h.pre.cont hm
    have key : s0.cfg = Fixes.all ∧ Good (some m.done) s0 ∧ s0.timer = none ∧ ∀ f, s0.onEndRestart = some f → f = m.done := by
      rcases h0 with ⟨-⟩ | ⟨c, -⟩
      · exact ⟨h.cfg, h.good, ht, ho⟩
      · have q := (procStep_killReap s c).quiet
        have e := raiseAll_same (s.killReap c).onEnd (s.killReap c)
        exact ⟨e.cfg.trans (q.1.cfg.trans h.cfg), good_endFlags (good_quiet q h.good),
          e.timer.trans (q.1.timer.trans ht), fun f hf => ho f ((e.onEndRestart.trans q.1.onEndRestart).symm.trans hf)⟩
    obtain ⟨c0, g0, t0, o0⟩ := key
    rw [if_pos (by rw [c0]; rfl)]
    exact (inFlight_clear c0 g0 (Or.inr rfl) t0 o0).respawn
  case signal => exact fun c sig hm _ => ((fl hm (by simp)).quiet (procStep_signalChild s c sig).quiet).fin
  case delete =>
    intro hm
    have h1 : Inv7 ({ s.raise m.done with alive := false }.emit .ended) :=
      (fl hm (by simp)).fin.quiet (.of_view rfl)
    exact h1.raise 0
  case nextEnding =>
    intro hm _
    have hi := fl hm (by simp)
    refine ⟨hi.cfg, hi.good.move fun g k => ?_, coupled_te ⟨rfl, rfl⟩ hi.cp⟩
    cases k with
    | raised h => exact .raised h
    | timer h hd => exact .timer h hd
    | onEnd h => exact .onEnd (List.mem_append_left _ h)
    | slot h => exact .slot h
    | flight h => cases h; exact .onEnd (by simp)
  case func => exact fun id hm => ((fl hm (by simp)).quiet (waitStep_emit s _).quiet).fin
  case hook =>
    exact fun b hm => ((fl hm (by cases b <;> simp)).quiet (t := { s with hookSet := b }) (.of_view rfl)).fin
  case err =>
    exact fun b hm => ((fl hm (by cases b <;> simp)).quiet (t := { s with errSet := b }) (.of_view rfl)).fin

theorem inv7_continueRestart {s : St} (hc : s.cfg = Fixes.all) (hg : Good none s) (ht : s.timer = none) :
    Inv7 s.continueRestart := by
  rw [continueRestart_eq (by rw [hc]; rfl)]
  cases ho : s.onEndRestart with
  | none => exact ⟨hc, hg, fun f hf => (by rw [ho] at hf; cases hf), fun t h _ => (by rw [ht] at h; cases h)⟩
  | some f => exact (inFlight_clear hc hg (Or.inl rfl) ht fun g hg' => Option.some.inj (hg'.symm.trans ho)).respawn

theorem inv7_waitBranch {s : St} (c) (h : Inv7 s) : Inv7 (waitBranch s c) := by
  unfold waitBranch
  -- state A: reaped (the timer is erased) and the flag of a pending graceful stop raised (repair F1)
  have e := reap_eq s c
  have hA := raiseAll_same s.stopFlags (s.reap c)
  have gA : Good none ((s.reap c).raiseAll s.stopFlags) := by
    refine h.good.move (fun g k => ?_) (hA.normal.trans (by rw [e]; rfl)) (hA.high.trans (by rw [e]; rfl))
      (hA.urgent.trans (by rw [e]; rfl)) (hA.issued.trans (by rw [e]; rfl))
    have hr : (s.reap c).isRaised g = s.isRaised g := by rw [e]; rfl
    cases k with
    | raised k => exact .raised (by rw [raiseAll_raised, hr, k]; rfl)
    | timer ht hd =>
      -- the timer's flag: a restart timer's is in the restart slot as well, a stop timer's is raised here
      rename_i t
      cases hrs : t.isRestart
      · have : s.stopFlags = [t.done] := by simp [St.stopFlags, ht, hrs, h.cfg, Fixes.all]
        exact .raised (by rw [raiseAll_raised]; simp [this, hd])
      · exact .slot (hA.onEndRestart.trans (by rw [e]; exact hd ▸ h.cp.2 t ht hrs))
    | onEnd k => exact .onEnd (hA.onEnd ▸ (by rw [e]; exact k))
    | slot k => exact .slot (hA.onEndRestart.trans (by rw [e]; exact k))
    | flight k => cases k
  have hE := raiseAll_same ((s.reap c).raiseAll s.stopFlags).onEnd ((s.reap c).raiseAll s.stopFlags)
  exact inv7_continueRestart (hE.cfg.trans (hA.cfg.trans ((by rw [e]; rfl : (s.reap c).cfg = s.cfg).trans h.cfg)))
    (good_endFlags gA) (hE.timer.trans (hA.timer.trans (by rw [e])))

theorem Mid.quiet {s t : St} {m : Msg} (h : Mid s m) (q : Quiet t s) : Mid t m :=
  ⟨q.1.cfg.trans h.cfg, good_quiet q h.good,
    ⟨fun hm => by rw [q.1.timer, q.1.onEndRestart]; exact h.pre.graceful hm,
     fun hm => by rw [q.1.timer, q.1.onEndRestart]; exact h.pre.cont hm⟩,
    h.cp.imp_right (coupled_same q.1)⟩

theorem shapes_take {s s1 : St} {src : Src} {m : Msg} (h : Shapes s) (ht : Take s src m s1) :
    Shapes s1 ∧ (src = .urgent → m.ctl = .stop ∨ m.ctl = .delete) ∧ (src = .high → m.ctl = .nextEnding) := by
  cases ht with
  | timer => exact ⟨shapes_queues rfl rfl h, nofun, nofun⟩
  | urgent m r hq =>
    exact ⟨⟨fun x hx => h.1 x (hq ▸ List.mem_cons_of_mem _ hx), h.2⟩, fun _ => h.1 m (hq ▸ List.mem_cons_self), nofun⟩
  | high m r hq =>
    exact ⟨⟨h.1, fun x hx => h.2 x (hq ▸ List.mem_cons_of_mem _ hx)⟩, nofun, fun _ => h.2 m (hq ▸ List.mem_cons_self)⟩
  | normal => exact ⟨shapes_queues rfl rfl h, nofun, nofun⟩

theorem shapes_turns {s : St} (h : Shapes s) : ∀ s' ∈ turns s, Shapes s' := by
  have task : ∀ {a b : St}, TaskStep a b → Shapes a → Shapes b := fun st =>
    shapes_queues st.keep st.keep
  refine turns_cases s ?wait ?recv ?closed
  case wait => exact fun c _ => task (taskStep_waitBranch _ c) (shapes_queues rfl rfl h)
  case recv => exact fun _ m _ _ ht => task (taskStep_handle _ m) (shapes_queues rfl rfl (shapes_take h ht).1)
  case closed => exact fun _ => task (taskStep_closedEnd s) h

/-- the receive order makes `Pre` true -/
theorem take_spec {s s1 : St} {m : Msg} {src : Src} (h : Inv7 s) (hsrc : src ∈ recvCandidates s)
    (ht : Take s src m s1) : Mid s1 m := by
  -- a control leaves its queue: its flag goes from pending to in flight
  have pop : ∀ {src : Src} {s1 : St} {m : Msg}, Take s src m s1 → src ≠ .timer → s1.issued = s.issued → s1.raised = s.raised →
      s1.held = s.held → Shapes s1 → Good (some m.done) s1 := by
    intro src s1 m ht hsrc hi hr hh hs
    refine ⟨fun g hgi => acc_iff.2 ?_, hs⟩
    rcases acc_iff.1 (h.good.nl g (hi ▸ hgi)) with hp' | k
    · obtain ⟨x, hx, rfl⟩ := List.mem_map.1 hp'
      exact ((ht.mem_queued hsrc).1 hx).imp (fun h => List.mem_map.2 ⟨x, h, rfl⟩) fun e => .flight (by rw [e])
    · refine .inr (kept_iff.2 ((kept_iff.1 k).imp (fun hr' => by simpa [St.isRaised, hr] using hr') (Or.imp (hh ▸ ·) nofun)))
  have hsh := shapes_take h.good.sh ht
  cases ht with
  | timer t htm =>
    refine ⟨h.cfg, h.good.move fun g k => ?_, ⟨?_, ?_⟩, ?_⟩
    · cases k with
      | raised k => exact .raised k
      | timer h1 h2 => rw [htm] at h1; cases h1; exact .flight (by rw [h2])
      | onEnd k => exact .onEnd k
      | slot k => exact .slot k
      | flight k => cases k
    · rintro ⟨g, r, hgr⟩
      cases hr : t.isRestart <;> simp [hr] at hgr
    · refine fun _ => ⟨rfl, fun f hf => ?_⟩
      obtain ⟨t', ht', -, hd⟩ := h.cp.1 f hf
      rw [htm] at ht'; cases ht'; exact hd.symm
    · cases hr : t.isRestart
      · refine Or.inr ⟨fun f hf => ?_, fun t' ht' _ => (by cases ht')⟩
        obtain ⟨t', ht', hr', -⟩ := h.cp.1 f hf
        rw [htm] at ht'; cases ht'; rw [hr] at hr'; cases hr'
      · exact Or.inl rfl
  | urgent m r hq =>
    have hshape := hsh.2.1 rfl
    refine ⟨h.cfg, pop (.urgent m r hq) (by simp) rfl rfl rfl hsh.1, ⟨?_, ?_⟩, Or.inr (coupled_te ⟨rfl, rfl⟩ h.cp)⟩
    · rintro ⟨g, r', hgr⟩; rcases hshape with hs | hs <;> rw [hs] at hgr <;> simp at hgr
    · intro hct; rcases hshape with hs | hs <;> rw [hs] at hct <;> cases hct
  | high m r hq =>
    have hshape := hsh.2.2 rfl
    refine ⟨h.cfg, pop (.high m r hq) (by simp) rfl rfl rfl hsh.1, ⟨?_, ?_⟩, Or.inr (coupled_te ⟨rfl, rfl⟩ h.cp)⟩
    · rintro ⟨g, r', hgr⟩; rw [hshape] at hgr; simp at hgr
    · intro hct; rw [hshape] at hct; cases hct
  | normal m r hq =>
    have htm : s.timer = none := normal_cand' hsrc
    have hoe : s.onEndRestart = none := h.cp.slot_none htm
    refine ⟨h.cfg, pop (.normal m r hq) (by simp) rfl rfl rfl hsh.1, ⟨fun _ => ⟨htm, hoe⟩, fun _ => ⟨htm, fun f hf => ?_⟩⟩,
      Or.inr (coupled_te ⟨rfl, rfl⟩ h.cp)⟩
    rw [show _ = s.onEndRestart from rfl, hoe] at hf; cases hf

theorem inv7_turns {s : St} (h : Inv7 s) : ∀ s' ∈ turns s, Inv7 s' := by
  refine turns_cases s ?wait ?recv ?closed
  case wait => exact fun c _ => inv7_waitBranch c (h.quiet (.of_view rfl))
  case recv => exact fun _ _ _ hsrc ht => inv7_handle ((take_spec h hsrc ht).quiet (.of_view rfl))
  case closed =>
    intro _
    rw [St.closedEnd, if_pos (by rw [h.cfg]; rfl)]
    exact (h.quiet (t := ({ s with alive := false } : St).emit .ended) (.of_view rfl)).raise 0

/-- what `Job`'s methods can put on each queue (job.rs; `control()` is normal priority only) -/
def ShapeOk (p : Prio) (c : Ctl) : Prop :=
  match p with
  | .urgent => c = .stop ∨ c = .delete
  | .high => c = .nextEnding
  | .normal => True

theorem mem_pending_enqueue (s : St) (p : Prio) (m : Msg) (f : FlagId) :
    f ∈ (enqueue s p m).pending ↔ f ∈ s.pending ∨ f = m.done := by
  unfold St.pending
  simp only [List.mem_map, mem_enqueue]
  exact ⟨fun ⟨x, hx, e⟩ => hx.elim (fun h => .inl ⟨x, h, e⟩) (fun h => .inr (h ▸ e.symm)),
    fun h => h.elim (fun ⟨x, hx, e⟩ => ⟨x, .inl hx, e⟩) (fun e => ⟨m, .inr rfl, e.symm⟩)⟩

theorem shapes_enqueue {s : St} (p : Prio) (m : Msg) (hs : ShapeOk p m.ctl) (h : Shapes s) : Shapes (enqueue s p m) := by
  cases p <;> simp only [enqueue, Shapes]
  · exact h
  · exact ⟨h.1, fun x hx => (List.mem_append.mp hx).elim (h.2 x) fun hx => by simp at hx; subst hx; exact hs⟩
  · exact ⟨fun x hx => (List.mem_append.mp hx).elim (h.1 x) fun hx => by simp at hx; subst hx; exact hs, h.2⟩

theorem shapes_simInv : SimInv Shapes ShapeOk :=
  .ofView (fun s => (s.urgent, s.high)) (fun h => by simp only [Prod.mk.injEq] at h; exact shapes_queues h.1 h.2)
    (fun _ h => shapes_turns h) (fun _ p m hs h => shapes_enqueue p m hs h)

theorem inv7_enqueue {s : St} (p : Prio) (m : Msg) (hs : ShapeOk p m.ctl) (h : Inv7 s) : Inv7 (enqueue s p m) := by
  have hf : (enqueue s p m).cfg = s.cfg ∧ (enqueue s p m).timer = s.timer ∧ (enqueue s p m).onEnd = s.onEnd ∧
      (enqueue s p m).onEndRestart = s.onEndRestart ∧ (enqueue s p m).raised = s.raised ∧
      (enqueue s p m).issued = s.issued ++ [m.done] := by
    cases p <;> exact ⟨rfl, rfl, rfl, rfl, rfl, rfl⟩
  obtain ⟨hc, htm, hoe, hoer, hr, hi⟩ := hf
  refine ⟨hc.trans h.cfg, ⟨fun g hgi => acc_iff.2 ?_, shapes_enqueue p m hs h.good.sh⟩, coupled_te ⟨htm, hoer⟩ h.cp⟩
  rw [hi] at hgi
  rcases List.mem_append.mp hgi with hg | hg
  · exact (acc_iff.1 (h.good.nl g hg)).imp (fun hh => (mem_pending_enqueue s p m g).mpr (Or.inl hh))
      (.move (x := none) htm hoe hoer (fun k => by simpa [St.isRaised, hr] using k) nofun)
  · exact Or.inl ((mem_pending_enqueue s p m _).mpr (Or.inr (by simpa using hg)))

theorem inv7_simInv : SimInv Inv7 ShapeOk :=
  .ofView St.flagView
    (fun h hi => hi.quiet (.of_view h)) (fun _ h => inv7_turns h)
    (fun _ p m hs h => inv7_enqueue p m hs h)

/-- operations a client of the `Job` handle can perform -/
def OpOk : Op → Prop
  | .send p cs _ => ∀ c ∈ cs, ShapeOk p c
  | .inject p cs _ => ∀ c ∈ cs, ShapeOk p c
  | _ => True

theorem OpOk.for {o : Op} (h : OpOk o) : OpOkFor ShapeOk o := by cases o <;> exact h

theorem inv7_init (behs : List Beh) : Inv7 { cfg := Fixes.all, behs := behs, hookSet := true, parked := true } := by
  refine ⟨rfl, ⟨?_, ?_⟩, ?_⟩
  · intro g hg; simp at hg
  · exact ⟨by simp, by simp⟩
  · exact ⟨by simp, by simp⟩

/-- **C07 (no lost flag)** — with the repairs in place, for every script of API-shaped operations,
    every child behaviour and every race resolution: each control flag ever issued is still queued,
    already raised, or held by the timer / `on_end` / the restart slot; and the restart flag lives
    exactly as long as its restart timer. -/
theorem c07_noLost (behs : List Beh) (ops : List Op) (hok : ∀ o ∈ ops, OpOk o) :
    ∀ y ∈ runOps { st := { cfg := Fixes.all, behs := behs, hookSet := true, parked := true } } ops,
      NoLost y.st ∧ Coupled y.st := by
  intro y hy
  have := inv7_simInv.runOps ops (fun o ho => (hok o ho).for) (x := { st := { cfg := Fixes.all, behs := behs, hookSet := true, parked := true } })
    (inv7_init behs) y hy
  exact ⟨this.good.nl, this.cp⟩

/-- Bool version of `Acc`/`NoLost`, for witnesses -/
def St.noLostB (s : St) : Bool :=
  s.issued.all (fun f => s.pending.contains f || s.isRaised f || s.held.contains f)

theorem noLostB_of_noLost {s : St} (h : NoLost s) : s.noLostB = true := by
  unfold St.noLostB
  rw [List.all_eq_true]
  intro f hf
  rcases noLost_iff.1 h f hf with hh | hh | hh <;> simp [hh]

/-- the same statement is FALSE for the unrepaired code: the F1 history (graceful stop, child exits
    inside the grace period) loses the graceful stop's flag -/
theorem c07_noLost_fails_today :
    ∃ y ∈ runOps { st := { cfg := Fixes.none, behs := [.exitsAfterSignal 30], hookSet := true, parked := true } }
        [.send .normal [.start] true, .settle, .advance 10, .send .normal [.gracefulStop 15 100] true, .advance 300],
      ¬ NoLost y.st := by
  refine ⟨_, List.mem_of_mem_head? (a := _) rfl, ?_⟩
  intro h
  have := noLostB_of_noLost h
  revert this
  decide

#print axioms c07_noLost

@[simp] theorem emit_cfg (s : St) (o) : (s.emit o).cfg = s.cfg := rfl

end Jm
