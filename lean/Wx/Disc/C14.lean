import Wx.Disc.C14wf
/-! C14 for filters whose scoping law holds unconditionally (`Env`): a special case of `Wx/Disc/C14wf.lean`. The walker theorem
    then needs no assumption on the tree; the specification's properties are those of the general form. -/
namespace Dw

/-- an unconditional scoping law is in particular a conditional one -/
def Env.toEnv' (e : Env) : Env' := ⟨e.ign, e.related, fun L d _ => e.scoping L d, e.setlike⟩

theorem sv_eq (e : Env) (t : T) : ∀ (anc : List Dir) (par : Dir), sv e anc par t = sv' e.toEnv' anc par t := by
  refine T.rec (motive_2 := fun ts => ∀ (anc : List Dir) (par : Dir), svs e anc par ts = svs' e.toEnv' anc par ts) ?_ ?_ ?_ t
  · intro name kids ih anc par
    simp only [sv, sv', ih]
    rfl
  · intro anc par; rfl
  · intro t ts iht ihts anc par
    simp only [svs, svs', iht, ihts]

theorem ign_eq (e : Env) {L anc : List Dir} {par : Dir} (h : AncOk L anc par) (name : Str) :
    e.ign L (par ++ [name]) = e.ign anc (par ++ [name]) :=
  ign_eq' e.toEnv' h name (e.scoping _ _)

/-- **C14 (core)** — the one-filter walker loads exactly `L` plus what the ancestors-only
    specification reaches -/
theorem visit_spec (e : Env) (t : T) :
    ∀ (L anc : List Dir) (par : Dir), AncOk L anc par →
      ∀ x, x ∈ visit e L par t ↔ x ∈ L ∨ x ∈ sv e anc par t := by
  refine T.rec (motive_2 := fun ts => ∀ (L anc : List Dir) (par : Dir), AncOk L anc par →
      ∀ x, x ∈ visits e L par ts ↔ x ∈ L ∨ x ∈ svs e anc par ts) ?_ ?_ ?_ t
  · intro name kids ih L anc par h x
    simp only [visit, sv]
    rw [ign_eq e h name]
    split
    · simp
    · rw [ih _ _ _ (ancOk_step h name) x, List.mem_cons, List.mem_cons, or_assoc, or_left_comm]
  · intro L anc par _ x
    simp [visits, svs]
  · intro t ts iht ihts L anc par h x
    simp only [visits, svs]
    -- what the first sibling's subtree loads does not disturb the invariant
    have h' : AncOk (visit e L par t) anc par :=
      ⟨h.1, fun a ha => (iht L anc par h a).2 (Or.inl (h.2 a ha))⟩
    rw [ihts _ _ _ h' x, iht L anc par h x, List.mem_append, or_assoc]

theorem svs_mem (e : Env) (anc : List Dir) (par : Dir) (ts : Ts) (x : Dir) :
    x ∈ svs e anc par ts ↔ ∃ t ∈ ts.toList, x ∈ sv e anc par t :=
  Ts.mem_pieces rfl (fun _ _ => rfl) ts x

theorem svs_perm (e : Env) (anc : List Dir) (par : Dir) (ts ts' : Ts) (h : ∀ t, t ∈ ts.toList ↔ t ∈ ts'.toList) (x : Dir) :
    x ∈ svs e anc par ts ↔ x ∈ svs e anc par ts' := by
  simp only [svs_mem, h]

/-- **C14 (listing order)** — the discovered set does not depend on the order in which directories
    are listed, at any depth -/
theorem sv_order (e : Env) (t t' : T) (h : TEq t t') :
    ∀ (anc : List Dir) (par : Dir) (x : Dir), x ∈ sv e anc par t ↔ x ∈ sv e anc par t' := by
  intro anc par x
  rw [sv_eq, sv_eq]
  exact sv'_order e.toEnv' t t' h anc par x

/-- every directory in the result, and every directory between it and the subtree's root, is related to
    the watch list and not ignored by its proper ancestors' files: nothing comes from inside an ignored
    or unrelated subtree -/
theorem sv_sound (e : Env) (t : T) :
    ∀ (anc : List Dir) (par : Dir), (∀ a, a ∈ anc ↔ a <+: par) →
      ∀ x ∈ sv e anc par t, ∀ y, y <+: x → par.length < y.length →
        ∀ A : List Dir, (∀ a, a ∈ A ↔ properAnc a y = true) → e.ign A y = false ∧ e.related y = true := by
  intro anc par
  rw [sv_eq]
  exact sv'_sound e.toEnv' t anc par

/-- **C14 (completeness)** — a directory of the tree is discovered whenever neither it nor any directory
    between it and the subtree's root is ignored by its proper ancestors' files or unrelated to the
    watch list -/
theorem sv_complete (e : Env) (t : T) :
    ∀ (anc : List Dir) (par : Dir), (∀ a, a ∈ anc ↔ a <+: par) →
      ∀ x ∈ paths par t,
        (∀ y, y <+: x → par.length < y.length →
          ∃ A : List Dir, (∀ a, a ∈ A ↔ properAnc a y = true) ∧ e.ign A y = false ∧ e.related y = true) →
        x ∈ sv e anc par t := by
  intro anc par
  rw [sv_eq]
  exact sv'_complete e.toEnv' t anc par

#print axioms visit_spec
#print axioms sv_order
#print axioms sv_sound
#print axioms sv_complete

/-- non-vacuity: any "some loaded proper ancestor objects" filter satisfies the two laws -/
def anyEnv (rule : Dir → Dir → Bool) (related : Dir → Bool) : Env where
  ign L d := L.any (fun a => properAnc a d && rule a d)
  related := related
  scoping L d := by
    simp only [List.any_filter]
    congr 1; funext a
    cases properAnc a d <;> simp
  setlike L L' d h := by
    rw [Bool.eq_iff_iff, List.any_eq_true, List.any_eq_true]
    constructor <;> rintro ⟨a, ha, hr⟩
    · exact ⟨a, (h a).1 ha, hr⟩
    · exact ⟨a, (h a).2 ha, hr⟩

example : visit (anyEnv (fun a d => a == [] && d.getLast? == some "out".toList) (fun _ => true)) [[]] []
    (.node "src".toList (.cons (.node "out".toList .nil) (.cons (.node "lib".toList .nil) .nil))) =
    [["src".toList, "lib".toList], ["src".toList], []] := by decide
end Dw
