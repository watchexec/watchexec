import Wx.Disc.C14wf
import Wx.Glob.C03
/-! C14 ∘ C03: the abstract discovery environment instantiated with C03's specification of `match_path`.
    `nv k d` is the verdict that the ignore files stored in directory `k` give about directory `d` (a function of `k`'s own
    files only — how the filter builds its nodes); a directory is ignored when nearest-ancestor-first evaluation over the
    LOADED directories says so. The scoping law the walker theorem needs is then C03's `scoping_law`, and set-likeness is
    `spec_keys_congr` — so the walker = specification theorem holds for the filter that C03 proves `match_path` to be. -/
namespace Dw
open Sp.C03

def specEnv (nv : Dir → Dir → Option Bool) (rel : Dir → Bool) : Env' where
  ign := fun L d => spec L (fun k => nv k d) d == some true
  related := rel
  scoping := by
    intro L d hd
    have h := scoping_law L (fun k => nv k d) d hd
    simp only [properAnc]
    rw [h]
  setlike := by
    intro L L' d h
    rw [spec_keys_congr L L' (fun k => nv k d) d (fun k _ => h k)]

theorem discovery_with_c03_filter (nv : Dir → Dir → Option Bool) (rel : Dir → Bool) (t : T) (L anc : List Dir) (par : Dir)
    (h : AncOk L anc par) (hw : wf t = true) (hf : ∀ x ∈ L, ¬ (par ++ [t.name]) <+: x) :
    ∀ x, x ∈ visit' (specEnv nv rel) L par t ↔ x ∈ L ∨ x ∈ sv' (specEnv nv rel) anc par t :=
  visit_spec' (specEnv nv rel) t L anc par h hw hf

/-- non-vacuity: `out/` ignored by the root's files, re-included by `sub`'s own file (the F14 shape): `sub/out` IS discovered -/
example :
    let nv : Dir → Dir → Option Bool := fun k d =>
      if k = [] ∧ d.getLast? = some "out".toList then some true           -- root .gitignore: `out/`
      else if k = ["sub".toList] ∧ d = ["sub".toList, "out".toList] then some false   -- sub/.gitignore: `!out/`
      else none
    let tree := T.node "sub".toList (.cons (.node "out".toList .nil) .nil)
    visit' (specEnv nv (fun _ => true)) [[]] [] tree = [["sub".toList, "out".toList], ["sub".toList], []] := by decide

#print axioms discovery_with_c03_filter
end Dw
