import Wx.Disc.Walk
/-! C14 core in its general form: the scoping law is required only for directories that are not themselves loaded (a directory's own
    ignore files are never consulted for the directory itself: they are loaded after it has been judged). This is the form the real
    filter satisfies (`Wx/Disc/C14Inst.lean`); the walker theorem then needs sibling names to be distinct, which a filesystem
    guarantees. The specification's own properties (listing order, soundness, completeness) use set-likeness only. -/
namespace Dw

def T.name : T → Str | .node n _ => n
def Ts.names : Ts → List Str
  | .nil => []
  | .cons t ts => t.name :: ts.names

mutual
/-- no two siblings have the same name, at every level -/
def wf : T → Bool
  | .node _ kids => wfs kids
def wfs : Ts → Bool
  | .nil => true
  | .cons t ts => wf t && wfs ts && !ts.names.contains t.name
end

structure Env' where
  ign : List Dir → Dir → Bool
  related : Dir → Bool
  scoping : ∀ L d, d ∉ L → ign L d = ign (L.filter (fun a => properAnc a d)) d
  setlike : ∀ L L' d, (∀ a, a ∈ L ↔ a ∈ L') → ign L d = ign L' d

mutual
def visit' (e : Env') (L : List Dir) (par : Dir) : T → List Dir
  | .node name kids =>
    let d := par ++ [name]
    if e.ign L d || !e.related d then L else visits' e (d :: L) d kids
def visits' (e : Env') (L : List Dir) (par : Dir) : Ts → List Dir
  | .nil => L
  | .cons t ts => visits' e (visit' e L par t) par ts
end

mutual
def sv' (e : Env') (anc : List Dir) (par : Dir) : T → List Dir
  | .node name kids =>
    let d := par ++ [name]
    if e.ign anc d || !e.related d then [] else d :: svs' e (d :: anc) d kids
def svs' (e : Env') (anc : List Dir) (par : Dir) : Ts → List Dir
  | .nil => []
  | .cons t ts => sv' e anc par t ++ svs' e anc par ts
end

theorem properAnc_iff (a par : Dir) (name : Str) : properAnc a (par ++ [name]) = true ↔ a <+: par := by
  unfold properAnc
  simp only [Bool.and_eq_true, List.isPrefixOf_iff_prefix, bne_iff_ne, ne_eq]
  rw [List.prefix_concat_iff]
  constructor
  · rintro ⟨h | h, hne⟩
    · exact absurd h hne
    · exact h
  · intro h
    refine ⟨Or.inr h, ?_⟩
    intro he
    have := List.IsPrefix.length_le h
    rw [he] at this; simp at this; omega

/-- the ancestors' files are loaded, and `anc` is exactly the set of ancestors -/
def AncOk (L anc : List Dir) (par : Dir) : Prop := (∀ a, a ∈ anc ↔ a <+: par) ∧ (∀ a, a <+: par → a ∈ L)

theorem anc_step {anc : List Dir} {par : Dir} (h : ∀ a, a ∈ anc ↔ a <+: par) (name : Str) :
    ∀ a, a ∈ (par ++ [name]) :: anc ↔ a <+: par ++ [name] := by
  intro a
  rw [List.mem_cons, List.prefix_concat_iff, h a]

theorem ancOk_step {L anc : List Dir} {par : Dir} (h : AncOk L anc par) (name : Str) :
    AncOk ((par ++ [name]) :: L) ((par ++ [name]) :: anc) (par ++ [name]) := by
  refine ⟨anc_step h.1 name, fun a ha => ?_⟩
  rcases List.prefix_concat_iff.1 ha with ha | ha
  · rw [ha]; exact List.mem_cons_self
  · exact List.mem_cons_of_mem _ (h.2 a ha)

theorem T.induction_on {P : T → Prop} (node : ∀ name kids, (∀ t ∈ kids.toList, P t) → P (.node name kids)) (t : T) : P t := by
  refine T.rec (motive_2 := fun ts => ∀ t ∈ ts.toList, P t) node ?_ ?_ t
  · intro t ht; cases ht
  · intro t ts iht ihts t' ht'
    rcases List.mem_cons.1 ht' with rfl | h
    · exact iht
    · exact ihts t' h

theorem Ts.induction_on {P : Ts → Prop} (nil : P .nil) (cons : ∀ t ts, P ts → P (.cons t ts)) (ts : Ts) : P ts :=
  Ts.rec (motive_1 := fun _ => True) (fun _ _ _ => trivial) nil (fun t ts _ => cons t ts) ts

/-- `nil` and `cons` are the equations of an `fs` built from `f` as `svs'` is from `sv'`: it is the union of `f` over the children -/
theorem Ts.mem_pieces {α : Type} {f : T → List α} {fs : Ts → List α} (nil : fs .nil = [])
    (cons : ∀ t ts, fs (.cons t ts) = f t ++ fs ts) (ts : Ts) (x : α) : x ∈ fs ts ↔ ∃ t ∈ ts.toList, x ∈ f t := by
  induction ts using Ts.induction_on with
  | nil => simp [nil, Ts.toList]
  | cons t ts ih => simp [cons, Ts.toList, ih]

theorem svs'_mem (e : Env') (anc : List Dir) (par : Dir) (ts : Ts) (x : Dir) :
    x ∈ svs' e anc par ts ↔ ∃ t ∈ ts.toList, x ∈ sv' e anc par t :=
  Ts.mem_pieces rfl (fun _ _ => rfl) ts x

-- same trees up to the order of children, at every level
mutual
inductive TEq : T → T → Prop
  | node (name : Str) (k k' : Ts) : TsEq k k' → TEq (.node name k) (.node name k')
inductive TsEq : Ts → Ts → Prop
  | nil : TsEq .nil .nil
  | cons (t t' : T) (k k' : Ts) : TEq t t' → TsEq k k' → TsEq (.cons t k) (.cons t' k')
  | swap (a b : T) (k : Ts) : TsEq (.cons a (.cons b k)) (.cons b (.cons a k))
  | trans (k1 k2 k3 : Ts) : TsEq k1 k2 → TsEq k2 k3 → TsEq k1 k3
end

theorem sv'_order (e : Env') (t t' : T) (h : TEq t t') :
    ∀ (anc : List Dir) (par : Dir) (x : Dir), x ∈ sv' e anc par t ↔ x ∈ sv' e anc par t' := by
  refine TEq.rec
    (motive_2 := fun k k' _ => ∀ (anc : List Dir) (par : Dir) (x : Dir), x ∈ svs' e anc par k ↔ x ∈ svs' e anc par k')
    ?_ ?_ ?_ ?_ ?_ h
  · intro name k k' _ ih anc par x
    simp only [sv']
    split
    · rfl
    · simp only [List.mem_cons, ih]
  · intro anc par x; rfl
  · intro t t' k k' _ _ ih1 ih2 anc par x
    simp only [svs', List.mem_append, ih1, ih2]
  · intro a b k anc par x
    simp only [svs', List.mem_append]
    exact or_left_comm
  · intro k1 k2 k3 _ _ ih1 ih2 anc par x
    exact (ih1 anc par x).trans (ih2 anc par x)

theorem TsEq.refl' : ∀ k : Ts, TsEq k k := by
  intro k
  induction k using Ts.rec (motive_1 := fun t => TEq t t) with
  | node name kids ih => exact TEq.node name kids kids ih
  | nil => exact TsEq.nil
  | cons t ts iht ihts => exact TsEq.cons t t ts ts iht ihts

theorem sv'_under (e : Env') (t : T) :
    ∀ (anc : List Dir) (par : Dir), ∀ x ∈ sv' e anc par t, par ++ [t.name] <+: x := by
  induction t using T.induction_on with
  | node name kids ih =>
    intro anc par x hx
    simp only [sv'] at hx
    split at hx
    · cases hx
    · rcases List.mem_cons.1 hx with rfl | hx
      · exact List.prefix_refl _
      · obtain ⟨t, ht, hxt⟩ := (svs'_mem ..).1 hx
        exact (List.prefix_append _ _).trans (ih t ht _ _ x hxt)

theorem ign_properAnc (e : Env') {anc A : List Dir} {par : Dir} {name : Str} (hanc : ∀ a, a ∈ anc ↔ a <+: par)
    (hA : ∀ a, a ∈ A ↔ properAnc a (par ++ [name]) = true) : e.ign A (par ++ [name]) = e.ign anc (par ++ [name]) :=
  e.setlike _ _ _ fun a => by rw [hA, properAnc_iff, hanc]

/-- `A` is any list that is, as a set, the proper ancestors of `y` (by `setlike` it does not matter which);
    `par.length < y.length` keeps `y` at the start node or below -/
theorem sv'_sound (e : Env') (t : T) :
    ∀ (anc : List Dir) (par : Dir), (∀ a, a ∈ anc ↔ a <+: par) →
      ∀ x ∈ sv' e anc par t, ∀ y, y <+: x → par.length < y.length →
        ∀ A : List Dir, (∀ a, a ∈ A ↔ properAnc a y = true) → e.ign A y = false ∧ e.related y = true := by
  induction t using T.induction_on with
  | node name kids ih =>
    intro anc par hanc x hx y hy hlen A hA
    have hdx : par ++ [name] <+: x := sv'_under e (.node name kids) anc par x hx
    simp only [sv'] at hx
    split at hx
    · cases hx
    · next hcond =>
      obtain ⟨hc1, hc2⟩ : e.ign anc (par ++ [name]) = false ∧ e.related (par ++ [name]) = true := by simpa using hcond
      -- `y` is the node itself, or lies below it and above something found in a child's subtree
      by_cases hyl : y.length ≤ par.length + 1
      · have : y = par ++ [name] := by
          rcases List.prefix_concat_iff.1 (List.prefix_of_prefix_length_le hy hdx (by simpa using hyl)) with h | h
          · exact h
          · have := h.length_le; omega
        subst this
        exact ⟨by rw [ign_properAnc e hanc hA, hc1], hc2⟩
      · rcases List.mem_cons.1 hx with rfl | hx
        · exact absurd (by simpa using hy.length_le) hyl
        · obtain ⟨t, ht, hxt⟩ := (svs'_mem ..).1 hx
          exact ih t ht _ _ (anc_step hanc name) x hxt y hy (by simp; omega) A hA

mutual
/-- every directory of the tree -/
def paths (par : Dir) : T → List Dir
  | .node name kids => (par ++ [name]) :: pathss (par ++ [name]) kids
def pathss (par : Dir) : Ts → List Dir
  | .nil => []
  | .cons t ts => paths par t ++ pathss par ts
end

theorem pathss_mem (par : Dir) (ts : Ts) (x : Dir) : x ∈ pathss par ts ↔ ∃ t ∈ ts.toList, x ∈ paths par t :=
  Ts.mem_pieces rfl (fun _ _ => rfl) ts x

theorem paths_under (t : T) : ∀ (par : Dir), ∀ x ∈ paths par t, par ++ [t.name] <+: x := by
  induction t using T.induction_on with
  | node name kids ih =>
    intro par x hx
    rcases List.mem_cons.1 hx with rfl | hx
    · exact List.prefix_refl _
    · obtain ⟨t, ht, hxt⟩ := (pathss_mem ..).1 hx
      exact (List.prefix_append _ _).trans (ih t ht _ x hxt)

/-- the converse, for which one such `A` for each `y` is enough -/
theorem sv'_complete (e : Env') (t : T) :
    ∀ (anc : List Dir) (par : Dir), (∀ a, a ∈ anc ↔ a <+: par) →
      ∀ x ∈ paths par t,
        (∀ y, y <+: x → par.length < y.length →
          ∃ A : List Dir, (∀ a, a ∈ A ↔ properAnc a y = true) ∧ e.ign A y = false ∧ e.related y = true) →
        x ∈ sv' e anc par t := by
  induction t using T.induction_on with
  | node name kids ih =>
    intro anc par hanc x hx hall
    obtain ⟨A, hA, hi, hr⟩ := hall (par ++ [name]) (paths_under (.node name kids) par x hx) (by simp)
    rw [ign_properAnc e hanc hA] at hi
    simp only [sv', hi, hr, Bool.not_true, Bool.or_false, Bool.false_eq_true, if_false, List.mem_cons, svs'_mem]
    refine (List.mem_cons.1 hx).imp_right fun h => ?_
    obtain ⟨t, ht, hxt⟩ := (pathss_mem ..).1 h
    exact ⟨t, ht, ih t ht _ _ (anc_step hanc name) x hxt (fun y hy hl => hall y hy (by simp at hl; omega))⟩

theorem names_mem (ts : Ts) (t : T) (h : t ∈ ts.toList) : t.name ∈ ts.names :=
  (Ts.mem_pieces (f := fun t => [t.name]) rfl (fun _ _ => rfl) ts t.name).2 ⟨t, h, List.mem_singleton_self _⟩

/-- `hs` is the scoping law at `L`: an `Env` has it always, an `Env'` for a directory that is not loaded -/
theorem ign_eq' (e : Env') {L anc : List Dir} {par : Dir} (h : AncOk L anc par) (name : Str)
    (hs : e.ign L (par ++ [name]) = e.ign (L.filter fun a => properAnc a (par ++ [name])) (par ++ [name])) :
    e.ign L (par ++ [name]) = e.ign anc (par ++ [name]) :=
  hs.trans <| ign_properAnc e h.1 fun a => by
    rw [List.mem_filter, and_iff_right_of_imp fun hp => h.2 a ((properAnc_iff ..).1 hp)]

theorem concat_prefix_inj {par x : Dir} {n m : Str} (h1 : par ++ [n] <+: x) (h2 : par ++ [m] <+: x) : n = m := by
  have := List.prefix_of_prefix_length_le h1 h2 (by simp)
  have h3 := List.IsPrefix.eq_of_length this (by simp)
  simpa using h3

/-- with the ancestors loaded and nothing at or below the node loaded yet, the walker adds to `L` exactly what the specification lists -/
theorem visit_spec' (e : Env') (t : T) :
    ∀ (L anc : List Dir) (par : Dir), AncOk L anc par → wf t = true →
      (∀ x ∈ L, ¬ (par ++ [t.name] <+: x)) →
      ∀ x, x ∈ visit' e L par t ↔ x ∈ L ∨ x ∈ sv' e anc par t := by
  -- besides `AncOk` the induction carries: nothing at or below a node still to come is loaded
  refine T.rec (motive_2 := fun ts => ∀ (L anc : List Dir) (par : Dir), AncOk L anc par → wfs ts = true →
      (∀ t ∈ ts.toList, ∀ x ∈ L, ¬ (par ++ [t.name] <+: x)) →
      ∀ x, x ∈ visits' e L par ts ↔ x ∈ L ∨ x ∈ svs' e anc par ts) ?_ ?_ ?_ t
  · intro name kids ih L anc par h hwf hfr x
    simp only [visit', sv']
    rw [ign_eq' e h name (e.scoping _ _ fun hin => hfr _ hin (List.prefix_refl _))]
    split
    · simp
    · have hfr' : ∀ t ∈ kids.toList, ∀ x ∈ (par ++ [name]) :: L, ¬ ((par ++ [name]) ++ [t.name] <+: x) := by
        intro t _ x hx hp
        rcases List.mem_cons.1 hx with rfl | hx
        · have := hp.length_le; simp at this
        · exact hfr x hx ((List.prefix_append _ _).trans hp)
      rw [ih _ _ _ (ancOk_step h name) (by simpa [wf] using hwf) hfr' x, List.mem_cons, List.mem_cons, or_assoc, or_left_comm]
  · intro L anc par _ _ _ x
    simp [visits', svs']
  · intro t ts iht ihts L anc par h hwf hfr x
    simp only [visits', svs']
    simp only [wfs, Bool.and_eq_true, Bool.not_eq_true'] at hwf
    obtain ⟨⟨hwt, hwts⟩, hnm⟩ := hwf
    have ht := iht L anc par h hwt (hfr t List.mem_cons_self)
    have h' : AncOk (visit' e L par t) anc par :=
      ⟨h.1, fun a ha => (ht a).2 (Or.inl (h.2 a ha))⟩
    -- what the first sibling's subtree loaded lies below that sibling, whose name no later sibling has
    have hfr' : ∀ t' ∈ ts.toList, ∀ x ∈ visit' e L par t, ¬ (par ++ [t'.name] <+: x) := by
      intro t' ht' x hx hp
      rcases (ht x).1 hx with hx | hx
      · exact hfr t' (List.mem_cons_of_mem _ ht') x hx hp
      · have := names_mem ts t' ht'
        rw [← concat_prefix_inj (sv'_under e t anc par x hx) hp] at this
        simp [this] at hnm
    rw [ihts _ _ _ h' hwts hfr' x, ht x, List.mem_append, or_assoc]

#print axioms visit_spec'
end Dw
