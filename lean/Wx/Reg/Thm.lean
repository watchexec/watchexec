import Wx.Reg.Model
/-! The registry never loses a live job: for EVERY script of actions (creations on any threads, ids minted on any threads,
    get-or-create with any held id, deletions in between), every job ever started is registered with the worker or has
    ended — so a graceful quit stops all of them and the main task waits for nothing that is not being stopped. -/
namespace Rg

theorem look_none_iff (k : Key) (l : List (Key × Nat)) : look k l = none ↔ ∀ e ∈ l, e.1 ≠ k := by
  simp only [look, Option.map_eq_none_iff, List.find?_eq_none]
  constructor
  · intro h e he heq; exact h e he (by simp [heq])
  · intro h e he; simpa using h e he

theorem look_some_mem {k : Key} {l : List (Key × Nat)} {j : Nat} (h : look k l = some j) : j ∈ vals l := by
  simp only [look, Option.map_eq_some_iff] at h
  obtain ⟨e, he, rfl⟩ := h
  exact List.mem_map.2 ⟨e, List.mem_of_find?_eq_some he, rfl⟩

theorem ins_fresh (k : Key) (v : Nat) (l : List (Key × Nat)) (h : ∀ e ∈ l, e.1 ≠ k) : ins k v l = (k, v) :: l := by
  simp only [ins, List.cons.injEq, true_and]
  exact List.filter_eq_self.2 (fun e he => by simpa using h e he)

theorem foldr_ins (new jobs : List (Key × Nat)) (hp : new.Pairwise (fun a b => a.1 ≠ b.1))
    (hd : ∀ e ∈ new, ∀ e' ∈ jobs, e.1 ≠ e'.1) : new.foldr (fun e js => ins e.1 e.2 js) jobs = new ++ jobs := by
  induction new with
  | nil => rfl
  | cons e rest ih =>
    have hp' := List.pairwise_cons.1 hp
    rw [List.foldr_cons, ih hp'.2 (fun x hx => hd x (by simp [hx]))]
    rw [ins_fresh]
    · rfl
    · intro x hx
      rcases List.mem_append.1 hx with hx | hx
      · exact fun h => hp'.1 x hx h.symm
      · exact fun h => hd e (by simp) x hx h.symm

theorem counterOf_mint (w : W) (t t' : Nat) :
    counterOf (mintId w t).2 t' = if t' = t then counterOf w t + 1 else counterOf w t' := by
  by_cases h : t' = t
  · subst h; simp [mintId, counterOf]
  · have h' : (t == t') = false := by simpa using fun e => h e.symm
    simp only [mintId, counterOf, List.find?_cons, h', h, if_false]
    congr 2
    rw [List.find?_filter]
    congr 1
    funext e
    by_cases he : e.1 = t'
    · simp [he, h]
    · have : (e.1 == t') = false := by simpa using he
      simp [this]

theorem counterOf_mint_le (w : W) (t t' : Nat) : counterOf w t' ≤ counterOf (mintId w t).2 t' := by
  rw [counterOf_mint]; split
  · next h => subst h; omega
  · exact Nat.le_refl _

structure Inv (w : W) : Prop where
  reg : ∀ j, j < w.nextJob → j ∈ vals w.jobs ∨ j ∈ vals w.new ∨ j ∈ w.dead
  newKeys : w.new.Pairwise (fun a b => a.1 ≠ b.1)
  disj : ∀ e ∈ w.new, ∀ e' ∈ w.jobs, e.1 ≠ e'.1
  freshIds : ∀ k ∈ w.ids, k.2 < counterOf w k.1
  freshJobs : ∀ e ∈ w.jobs, e.1.2 < counterOf w e.1.1
  freshNew : ∀ e ∈ w.new, e.1.2 < counterOf w e.1.1
  tasksLt : ∀ j ∈ w.tasks, j < w.nextJob
  newLt : ∀ j ∈ vals w.new, j < w.nextJob
  fix : w.cfg.f19 = true
  tasksAll : ∀ j, j < w.nextJob → j ∈ w.tasks ∨ j ∈ vals w.new

theorem inv_init : Inv (init { f19 := true }) := by
  constructor <;> simp [init, vals]

theorem inv_mint {w : W} (h : Inv w) (t : Nat) :
    Inv (mintId w t).2 ∧ (∀ e ∈ w.jobs, e.1 ≠ (mintId w t).1) ∧ (∀ e ∈ w.new, e.1 ≠ (mintId w t).1)
      ∧ (mintId w t).1.2 < counterOf (mintId w t).2 (mintId w t).1.1 := by
  have hle := counterOf_mint_le w t
  have fresh : ∀ {k : Key}, k.2 < counterOf w k.1 → k ≠ (mintId w t).1 := fun hk heq => by
    rw [heq] at hk; simp [mintId] at hk
  refine ⟨{ h with
      freshIds := fun k hk => Nat.lt_of_lt_of_le (h.freshIds k hk) (hle _)
      freshJobs := fun e he => Nat.lt_of_lt_of_le (h.freshJobs e he) (hle _)
      freshNew := fun e he => Nat.lt_of_lt_of_le (h.freshNew e he) (hle _) },
    fun e he => fresh (h.freshJobs e he), fun e he => fresh (h.freshNew e he), ?_⟩
  rw [counterOf_mint]; simp [mintId]

theorem inv_startWith {w : W} {k : Key} (h : Inv w) (hj : ∀ e ∈ w.jobs, e.1 ≠ k) (hn : ∀ e ∈ w.new, e.1 ≠ k)
    (hf : k.2 < counterOf w k.1) : Inv (startWith w k) := by
  rw [startWith, ins_fresh k _ _ hn]
  have hv : ∀ j, j ∈ vals ((k, w.nextJob) :: w.new) ↔ j = w.nextJob ∨ j ∈ vals w.new := fun j => List.mem_cons
  exact { h with
    -- the jobs started before are where they were; the one started now is in `new`
    reg := Nat.forall_lt_succ_right.2
      ⟨fun j hlt => (h.reg j hlt).imp_right (.imp_left ((hv j).2 ∘ .inr)), .inr (.inl ((hv _).2 (.inl rfl)))⟩
    newKeys := List.pairwise_cons.2 ⟨fun e he heq => hn e he heq.symm, h.newKeys⟩
    disj := by
      intro e he e' he'
      rcases List.mem_cons.1 he with rfl | he
      · exact fun heq => hj e' he' heq.symm
      · exact h.disj e he e' he'
    freshNew := by
      intro e he
      rcases List.mem_cons.1 he with rfl | he
      · exact hf
      · exact h.freshNew e he
    tasksLt := fun j hjt => Nat.lt_succ_of_lt (h.tasksLt j hjt)
    newLt := by
      intro j hjv
      rcases (hv j).1 hjv with rfl | hjv
      · exact Nat.lt_succ_self _
      · exact Nat.lt_succ_of_lt (h.newLt j hjv)
    tasksAll := Nat.forall_lt_succ_right.2
      ⟨fun j hlt => (h.tasksAll j hlt).imp_right ((hv j).2 ∘ .inr), .inr ((hv _).2 (.inl rfl))⟩ }

theorem inv_ids {w : W} {k : Key} (h : Inv w) (hf : k.2 < counterOf w k.1) : Inv { w with ids := w.ids ++ [k] } :=
  { h with
    freshIds := by
      intro k' hk'
      rcases List.mem_append.1 hk' with hk' | hk'
      · exact h.freshIds k' hk'
      · rw [List.mem_singleton.1 hk']; exact hf }

theorem inv_out {w : W} {r : Res} (h : Inv w) : Inv { w with out := r :: w.out } := { h with }

theorem inv_step {w : W} (h : Inv w) (op : Op) : Inv (step w op) := by
  cases op with
  | create t =>
    obtain ⟨hi, hj, hn, hf⟩ := inv_mint h t
    simp only [step]
    exact inv_startWith (inv_ids hi hf) hj hn hf
  | mint t =>
    obtain ⟨hi, _, _, hf⟩ := inv_mint h t
    simp only [step]
    exact inv_ids hi hf
  | get i =>
    simp only [step]
    split
    · exact h
    · exact inv_out h
  | goc i =>
    simp only [step]
    split
    · exact h
    · next k hk =>
      have hkm : k ∈ w.ids := List.mem_of_getElem? hk
      split
      · exact inv_out h
      · next hlj =>
        rw [h.fix]; simp only [if_true]
        split
        · exact inv_out h
        · next hln =>
          exact inv_startWith h ((look_none_iff k _).1 hlj) ((look_none_iff k _).1 hln) (h.freshIds k hkm)

theorem inv_steps {w : W} (h : Inv w) (ops : List Op) : Inv (ops.foldl step w) :=
  List.foldlRecOn ops step h fun _ hw op _ => inv_step hw op

theorem mem_vals_filter {j : Nat} {l : List (Key × Nat)} {p : Nat → Bool} (hj : j ∈ vals l) (hp : p j = true) :
    j ∈ vals (l.filter fun e => p e.2) := by
  obtain ⟨e, he, rfl⟩ := List.mem_map.1 hj
  exact List.mem_map.2 ⟨e, List.mem_filter.2 ⟨he, hp⟩, rfl⟩

theorem inv_endAction {w : W} (h : Inv w) : Inv (endAction w) := by
  unfold endAction
  rw [foldr_ins w.new w.jobs h.newKeys h.disj]
  exact { h with
    reg := by
      intro j hj
      by_cases hd : j ∈ w.dead
      · exact .inr (.inr hd)
      · refine .inl (mem_vals_filter (p := fun j => !w.dead.contains j) ?_ (by simpa using hd))
        rw [vals, List.map_append]
        rcases h.reg j hj with h1 | h1 | h1
        · exact List.mem_append_right _ h1
        · exact List.mem_append_left _ h1
        · exact absurd h1 hd
    newKeys := .nil
    disj := nofun
    freshJobs := by
      intro e he
      rcases List.mem_append.1 (List.mem_filter.1 he).1 with h1 | h1
      · exact h.freshNew e h1
      · exact h.freshJobs e h1
    freshNew := nofun
    tasksLt := fun j hj => (List.mem_append.1 hj).elim (h.tasksLt j) (h.newLt j)
    newLt := nofun
    tasksAll := fun j hj => .inl (List.mem_append.2 (h.tasksAll j hj)) }

theorem inv_kill {w : W} (h : Inv w) (js : List Nat) : Inv (kill w js) :=
  { h with reg := fun j hj => (h.reg j hj).imp_right fun h1 => h1.imp_right (List.mem_append_left _) }

theorem inv_run {w : W} (h : Inv w) (hn : w.new = []) (script : List (List Op × List Nat)) :
    Inv (run w script) ∧ (run w script).new = [] := by
  induction script generalizing w with
  | nil => exact ⟨h, hn⟩
  | cons a rest ih => exact ih (inv_kill (inv_endAction (inv_steps h a.1)) a.2) rfl

theorem Inv.settled {w : W} (h : Inv w) (hn : w.new = []) {j : Nat} (hj : j < w.nextJob) : j ∈ vals w.jobs ∨ j ∈ w.dead :=
  (h.reg j hj).imp_right fun h1 => h1.resolve_left (by rw [hn]; nofun)

theorem Inv.tasked {w : W} (h : Inv w) (hn : w.new = []) {j : Nat} (hj : j < w.nextJob) : j ∈ w.tasks :=
  (h.tasksAll j hj).resolve_right (by rw [hn]; nofun)

theorem filter_eq_nil_of {l : List Nat} {p q : Nat → Bool} (h : ∀ j ∈ l, p j = true ∨ q j = true) :
    l.filter (fun j => !p j && !q j) = [] :=
  List.filter_eq_nil_iff.2 fun j hj => by rcases h j hj with h1 | h1 <;> simp [h1]

/-- **a graceful quit reaches every live job, and the main task waits for none it does not stop** -/
theorem no_job_outside_the_registry (script : List (List Op × List Nat)) :
    leaked (run (init { f19 := true }) script) = [] ∧ hung (run (init { f19 := true }) script) = [] := by
  obtain ⟨hi, hn⟩ := inv_run inv_init rfl script
  have hr := fun j hj => (hi.settled hn (j := j) hj).imp List.contains_iff_mem.2 List.contains_iff_mem.2
  exact ⟨filter_eq_nil_of fun j hj => hr j (List.mem_range.1 hj), filter_eq_nil_of fun j hj => hr j (hi.tasksLt j hj)⟩

/-- **an abort quit reaches every job task**: the worker holds the task of every job ever started (dropping `jobtasks` aborts them all) -/
theorem abort_reaches_every_job_task (script : List (List Op × List Nat)) :
    abortLeaked (run (init { f19 := true }) script) = [] := by
  obtain ⟨hi, hn⟩ := inv_run inv_init rfl script
  exact filter_eq_nil_of fun j hj => .inl (List.contains_iff_mem.2 (hi.tasked hn (List.mem_range.1 hj)))

example : abortLeaked (run (init { f19 := false }) [([.mint 0, .goc 0, .goc 0], [])]) = [0] := by decide

/-- ids minted by `Id::default()` are pairwise distinct whatever threads mint them -/
theorem minted_ids_are_fresh (w : W) (t : Nat) (h : Inv w) : (mintId w t).1 ∉ w.ids := by
  intro hm
  have := h.freshIds _ hm
  simp [mintId] at this

/-- **the unrepaired `get_or_create_job` loses a job**: the second job replaces the first in `new` -/
theorem get_or_create_twice_leaks_today :
    leaked (run (init { f19 := false }) [([.mint 0, .goc 0, .goc 0], [])]) = [0] := by decide

example : leaked (run (init { f19 := true }) [([.mint 0, .goc 0, .goc 0], [])]) = [] := by decide
example : (run (init { f19 := true }) [([.create 0, .create 1, .mint 1, .goc 2], []), ([.goc 0, .goc 2, .get 1], [1])]).out.reverse
    = [.created 0, .created 1, .created 2, .existing 0, .existing 2, .existing 1] := by decide

end Rg
