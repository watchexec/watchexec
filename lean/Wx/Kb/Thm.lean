import Wx.Kb.Model
/-! Theorems about the keyboard source model: for EVERY script of configuration changes, stdin input and scheduling points. -/
namespace Kb

theorem run_append (s : St) (a b : List Op) : run s (a ++ b) = run (run s a) b := List.foldl_append ..

@[elab_as_elim]
theorem workerIter_cases {P : St → Prop} (s : St) (idle : s.dirty = false → P s)
    (same : s.closeS = s.enabled → P { s with dirty := false })
    (spawn : s.enabled = true → s.closeS = false →
      P { s with dirty := false, closeS := true, alive := true, spawned := s.spawned + 1 })
    (close : s.enabled = false → s.closeS = true → P { s with dirty := false, closeS := false, alive := false }) :
    P (workerIter s) := by
  obtain ⟨en, d, c, a, e, n, k⟩ := s
  cases d
  · exact idle rfl
  cases en <;> cases c
  · exact same rfl
  · exact close rfl rfl
  · exact spawn rfl rfl
  · exact same rfl

theorem workerIter_clean (s : St) : (workerIter s).dirty = false :=
  workerIter_cases s id (fun _ => rfl) (fun _ _ => rfl) (fun _ _ => rfl)

theorem workerIter_frame (s : St) : (workerIter s).enabled = s.enabled ∧ (workerIter s).eof = s.eof :=
  workerIter_cases s
    (fun _ => ⟨rfl, rfl⟩) (fun _ => ⟨rfl, rfl⟩) (fun _ _ => ⟨rfl, rfl⟩) (fun _ _ => ⟨rfl, rfl⟩)

@[elab_as_elim]
theorem watcherRun_cases {P : St → Prop} (s : St) (idle : (s.alive && s.eof) = false → P s)
    (report : s.alive = true → s.eof = true → P { s with alive := false, delivered := s.delivered + 1 }) :
    P (watcherRun s) := by
  unfold watcherRun
  cases hae : s.alive && s.eof
  · exact idle hae
  · exact report (Bool.and_eq_true_iff.mp hae).1 (Bool.and_eq_true_iff.mp hae).2

theorem settle_idle {s : St} (hd : s.dirty = false) (ha : (s.alive && s.eof) = false) : settle s = s := by
  have hw : workerIter s = s := by simp [workerIter, hd]
  rw [settle, hw, watcherRun, if_neg (by simp [ha])]

structure Inv (s : St) : Prop where
  alive_closeS : s.alive = true → s.closeS = true
  closeS_alive : s.closeS = true → s.alive = true ∨ 1 ≤ s.delivered
  seen : s.dirty = false → s.closeS = s.enabled
  le : s.delivered + (if s.alive then 1 else 0) ≤ s.spawned
  eof : 1 ≤ s.delivered → s.eof = true

theorem inv_init : Inv init := by
  constructor <;> simp [init]

theorem inv_workerIter {s : St} (h : Inv s) : Inv (workerIter s) := by
  refine workerIter_cases s (fun _ => h) (fun hs => { h with seen := fun _ => hs }) (fun he hc => ?_) (fun he hc => ?_)
  · -- a task is spawned: none was alive, since there was no close channel
    have ha : s.alive = false := by
      cases ha : s.alive
      · rfl
      · exact (h.alive_closeS ha).symm.trans hc
    exact { h with
      alive_closeS := fun _ => rfl
      closeS_alive := fun _ => .inl rfl
      seen := fun _ => he.symm
      le := by
        have := h.le
        simp only [ha, Bool.false_eq_true, if_false, if_true] at this ⊢
        omega }
  · -- the close channel is used: a task that is still alive ends without having delivered
    exact { h with
      alive_closeS := id
      closeS_alive := nofun
      seen := fun _ => he.symm
      le := by
        have := h.le
        simp only [Bool.false_eq_true, if_false]
        omega }

theorem inv_watcherRun {s : St} (h : Inv s) : Inv (watcherRun s) := by
  refine watcherRun_cases s (fun _ => h) fun ha he => ?_
  exact { h with
    alive_closeS := nofun
    closeS_alive := fun _ => .inr (Nat.le_add_left ..)
    eof := fun _ => he
    le := by
      have := h.le
      simp only [ha, if_true, Bool.false_eq_true, if_false] at this ⊢
      omega }

theorem inv_step {s : St} (h : Inv s) (op : Op) : Inv (step s op) := by
  cases op with
  | set b => exact { h with seen := nofun }
  | poke => exact { h with seen := nofun }
  | data => exact h
  | close => exact { h with eof := fun _ => rfl }
  | settle => exact inv_watcherRun (inv_workerIter h)

theorem inv_run (s : St) (ops : List Op) (h : Inv s) : Inv (run s ops) :=
  List.foldlRecOn ops step h fun _ hs op _ => inv_step hs op

theorem settle_clean (s : St) : (settle s).dirty = false := by
  unfold settle
  exact watcherRun_cases (workerIter s) (fun _ => workerIter_clean s) fun _ _ => workerIter_clean s

theorem settle_quiet (s : St) : ((settle s).alive && (settle s).eof) = false := by
  unfold settle
  exact watcherRun_cases (workerIter s) id fun _ _ => rfl

theorem settle_delivers {s : St} (h : Inv s) (he : (settle s).enabled = true) (hf : (settle s).eof = true) :
    1 ≤ (settle s).delivered := by
  have hi : Inv (settle s) := inv_step h .settle
  -- the worker has seen `enabled`, so there is a close channel; its task is not alive at end of input, so it has delivered
  rcases hi.closeS_alive ((hi.seen (settle_clean s)).trans he) with ha | hd
  · have hq := settle_quiet s
    simp [ha, hf] at hq
  · exact hd

/-- **no keyboard EOF is lost** -/
theorem eof_never_lost (ops : List Op) :
    (settle (run init ops)).enabled = true → (settle (run init ops)).eof = true → 1 ≤ (settle (run init ops)).delivered :=
  settle_delivers (inv_run init ops inv_init)

theorem Inv.delivered_le_spawned {s : St} (h : Inv s) : s.delivered ≤ s.spawned := Nat.le_trans (Nat.le_add_right ..) h.le

/-! The worker looks at the configuration only when it runs (`settle`). `edges` counts the settling points at which the
configured value has gone from disabled to enabled. -/

structure Edge where
  cur : Bool := false      -- the configured value
  last : Bool := false     -- … at the previous settling point
  n : Nat := 0
  deriving DecidableEq, Repr

def edgeStep (e : Edge) : Op → Edge
  | .set b => { e with cur := b }
  | .settle => { e with last := e.cur, n := e.n + (if e.cur && !e.last then 1 else 0) }
  | _ => e

def edges (ops : List Op) : Nat := (ops.foldl edgeStep {}).n

/-- the worker's private state is exactly the edge detector: `send_close.is_some()` is the value it saw last -/
def edgeOf (s : St) : Edge := { cur := s.enabled, last := s.closeS, n := s.spawned }

theorem edgeOf_step {s : St} (h : Inv s) (op : Op) : edgeOf (step s op) = edgeStep (edgeOf s) op := by
  cases op with
  | settle =>
    have hw : edgeOf (watcherRun (workerIter s)) = edgeOf (workerIter s) :=
      watcherRun_cases (workerIter s) (fun _ => rfl) fun _ _ => rfl
    rw [step, settle, hw]
    refine workerIter_cases s (fun hd => ?_) (fun hs => ?_) (fun he hc => ?_) (fun he hc => ?_)
    · simp [edgeOf, edgeStep, h.seen hd]
    · simp [edgeOf, edgeStep, hs]
    · simp [edgeOf, edgeStep, he, hc]
    · simp [edgeOf, edgeStep, he, hc]
  | _ => rfl

theorem edgeOf_run {s : St} (h : Inv s) (ops : List Op) : edgeOf (run s ops) = ops.foldl edgeStep (edgeOf s) := by
  induction ops generalizing s with
  | nil => rfl
  | cons op ops ih => rw [List.foldl_cons, ← edgeOf_step h]; exact ih (inv_step h op)

/-- **watch tasks = switches from disabled to enabled** (as seen at the settling points), for every script -/
theorem spawned_eq_edges (ops : List Op) : (run init ops).spawned = edges ops :=
  congrArg Edge.n (edgeOf_run inv_init ops)

theorem delivered_le_edges (ops : List Op) : (run init ops).delivered ≤ edges ops :=
  spawned_eq_edges ops ▸ (inv_run init ops inv_init).delivered_le_spawned

example : edges [.set true, .settle, .set true, .settle, .set false, .set true, .settle] = 1 := by decide
/-- a change of another configuration value while the source stays enabled neither ends the watch task nor starts a second one -/
example : (run init [.set true, .settle, .poke, .settle, .close, .settle]).delivered = 1 ∧
    (run init [.set true, .settle, .poke, .settle, .poke, .settle, .close, .settle]).spawned = 1 := by decide

def enables (ops : List Op) : Nat := (ops.filter (· == .set true)).length

theorem enables_cons (op : Op) (ops : List Op) : enables (op :: ops) = (if op = .set true then 1 else 0) + enables ops := by
  simp only [enables, List.filter_cons, beq_iff_eq]
  split <;> simp [Nat.add_comm]

/-- an edge the detector will count at the next settling point -/
def Edge.owed (e : Edge) : Nat := if e.cur && !e.last then 1 else 0

theorem owed_step (e : Edge) (op : Op) :
    (edgeStep e op).n + (edgeStep e op).owed ≤ e.n + e.owed + (if op = .set true then 1 else 0) := by
  cases op with
  | set b =>
    have : ∀ e : Edge, e.owed ≤ 1 := fun e => by unfold Edge.owed; split <;> simp
    cases b
    · simp [edgeStep, Edge.owed]
    · have := this { e with cur := true }
      simp only [edgeStep, if_true]; omega
  | settle => simp [edgeStep, Edge.owed]
  | _ => exact Nat.le_add_right ..

theorem owed_run (e : Edge) (ops : List Op) :
    (ops.foldl edgeStep e).n + (ops.foldl edgeStep e).owed ≤ e.n + e.owed + enables ops := by
  induction ops generalizing e with
  | nil => exact Nat.le_refl _
  | cons op ops ih =>
    have h1 := ih (edgeStep e op)
    have h2 := owed_step e op
    rw [enables_cons, List.foldl_cons]
    omega

theorem edges_le_enables (ops : List Op) : edges ops ≤ enables ops := by
  have := owed_run {} ops
  simp only [Edge.owed, Bool.false_and, Bool.false_eq_true, if_false] at this
  unfold edges
  omega

theorem delivered_le_enables (ops : List Op) : (run init ops).delivered ≤ enables ops :=
  Nat.le_trans (delivered_le_edges ops) (edges_le_enables ops)

/-- **a disabled source delivers nothing**: while `keyboard_events` was never switched on, no input and no EOF on stdin produces an event -/
theorem disabled_delivers_nothing (ops : List Op) (h : ∀ op ∈ ops, op ≠ .set true) : (run init ops).delivered = 0 := by
  have h1 := delivered_le_enables ops
  have : enables ops = 0 := by
    simp only [enables, List.length_eq_zero_iff, List.filter_eq_nil_iff]
    intro op hop; simpa using h op hop
  omega

/-- the state of a source that is enabled and reading, having delivered `n` events from `k` tasks -/
def watching (n k : Nat) : St := { enabled := true, dirty := false, closeS := true, alive := true, eof := false, delivered := n, spawned := k }

def quietOp : Op → Bool | .data => true | .settle => true | _ => false
def noSet : Op → Bool | .set _ => false | .poke => false | _ => true

theorem watching_quiet (n k : Nat) (ds : List Op) (h : ∀ op ∈ ds, quietOp op = true) : run (watching n k) ds = watching n k := by
  refine List.foldlRecOn (motive := (· = watching n k)) ds step rfl fun s hs op hop => ?_
  subst hs
  cases op with
  | data => rfl
  | settle => exact settle_idle rfl rfl
  | _ => exact nomatch h _ hop

theorem ended_stays (s : St) (rest : List Op) (hs : s.closeS = s.enabled) (ha : s.alive = false) (h : ∀ b, .set b ∉ rest) :
    (run s rest).delivered = s.delivered := by
  refine (List.foldlRecOn (motive := fun t => t.closeS = t.enabled ∧ t.alive = false ∧ t.delivered = s.delivered)
    rest step ⟨hs, ha, rfl⟩ fun t ht op hop => ?_).2.2
  cases op with
  | set b => exact absurd hop (h b)
  | settle =>
    -- the worker neither spawns nor closes, since its channel agrees with the configuration; the watcher has no task to report for
    have hw : (workerIter t).closeS = (workerIter t).enabled ∧ (workerIter t).alive = false ∧ (workerIter t).delivered = s.delivered :=
      workerIter_cases t (fun _ => ht) (fun _ => ht)
        (fun he hc => (Bool.false_ne_true (hc.symm.trans (ht.1.trans he))).elim)
        (fun he hc => (Bool.false_ne_true (he.symm.trans (ht.1.symm.trans hc))).elim)
    rw [step, settle]
    exact watcherRun_cases (workerIter t) (fun _ => hw) fun ha' _ => (Bool.false_ne_true (hw.2.1.symm.trans ha')).elim
  | _ => exact ht

theorem eof_once (ds rest : List Op) (hds : ∀ op ∈ ds, quietOp op = true) (hrest : ∀ b, .set b ∉ rest) :
    (run init ([.set true, .settle] ++ ds ++ [.close, .settle] ++ rest)).delivered = 1 := by
  have h1 : run init [.set true, .settle] = watching 0 1 := by decide
  have h2 : run (watching 0 1) [.close, .settle]
      = { enabled := true, dirty := false, closeS := true, alive := false, eof := true, delivered := 1, spawned := 1 } := by decide
  rw [run_append, run_append, run_append, h1, watching_quiet 0 1 ds hds, h2, ended_stays _ rest rfl rfl hrest]

/-- `eof_once` under the stronger `noSet`, which also forbids `.poke` after the end of input -/
theorem eof_exactly_once (ds rest : List Op) (hds : ∀ op ∈ ds, quietOp op = true) (hrest : ∀ op ∈ rest, noSet op = true) :
    (run init ([.set true, .settle] ++ ds ++ [.close, .settle] ++ rest)).delivered = 1 :=
  eof_once ds rest hds fun _ hb => Bool.false_ne_true (hrest _ hb)

/-- the premises are satisfiable, and the general bound is tight: switching the source off and on again at end of input
    sends the event a second time (one per task), never more -/
example : (run init [.set true, .settle, .data, .close, .settle, .set false, .settle, .set true, .settle]).delivered = 2 := by decide
example : (run init [.set true, .set false, .set true, .settle, .close, .settle]).spawned = 1 := by decide

end Kb
