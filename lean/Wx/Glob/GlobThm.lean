import Wx.Glob.Glob
/-! What the glob model means on the pattern grammar the properties name (C03 / C11: literal names, `*.ext`, `/rooted`,
    `a/b`, `**/x`, `x/**`): the parser's output for each shape and an exact characterisation of the strings the resulting
    token list matches, for every `Clean` name or extension and every candidate path. `Clean` excludes `? [ \ *`, separators
    and blanks; it allows `{ } ,`, which the model takes literally and globset would read as alternates: such names are
    outside the grammar the glob stream generates, which is what ties the model to the real `ignore` / `globset` crates.
    Also: the parser's fuel always suffices. -/
namespace Sp.Glob

/-- characters the model's parser takes literally -/
def plain (c : Char) : Bool := c != '?' && c != '[' && c != '\\' && c != '*'

def lits (s : List Char) : List Tok := s.map Tok.lit

theorem plain_iff {c : Char} : plain c = true ↔ c ≠ '?' ∧ c ≠ '[' ∧ c ≠ '\\' ∧ c ≠ '*' := by
  simp only [plain, Bool.and_eq_true, bne_iff_ne, and_assoc]

theorem plain_slash : plain '/' = true := by decide

theorem startsWith_nil (l : List Char) : startsWith l [] = true := by simp [startsWith]

theorem startsWith_cons_cons (c d : Char) (r p : List Char) : startsWith (c :: r) (d :: p) = (c == d && startsWith r p) := by
  simp [startsWith]

theorem endsWith_eq (l suf : List Char) : endsWith l suf = startsWith l.reverse suf.reverse := by
  simp [endsWith, startsWith]

theorem endsWith_last_ne {l suf : List Char} {b : Char} (hs : suf.getLast? = some b) (hl : l.getLast? ≠ some b) :
    endsWith l suf = false := by
  rw [← List.head?_reverse] at hl hs
  rw [endsWith_eq]
  cases hq : suf.reverse with
  | nil => rw [hq] at hs; cases hs
  | cons y ys =>
    rw [hq] at hs; cases hs
    cases hr : l.reverse with
    | nil => rfl
    | cons x xs =>
      rw [hr] at hl
      simp [startsWith_cons_cons, show x ≠ b by simpa using hl]

theorem getLast?_cons_ne {l : List Char} {c a : Char} (hc : c ≠ a) (h : l.getLast? ≠ some a) : (c :: l).getLast? ≠ some a := by
  rw [List.getLast?_cons]
  cases hl : l.getLast? with
  | none => simpa using hc
  | some b => simpa [hl] using h

theorem head?_append_of_ne_nil {l : List Char} (r : List Char) (h : l ≠ []) : (l ++ r).head? = l.head? := by
  cases l with
  | nil => exact absurd rfl h
  | cons _ _ => rfl

theorem getLast?_append_of_ne_nil (l : List Char) {r : List Char} (h : r ≠ []) : (l ++ r).getLast? = r.getLast? := by
  rw [List.getLast?_append, List.getLast?_eq_some_getLast h, Option.some_or]

theorem parseClass_go_shorter (neg first inRange : Bool) (rs : List (Char × Char)) (cs : List Char) (t : Tok) (r : List Char)
    (h : parseClass.go neg first inRange rs cs = some (t, r)) : r.length < cs.length := by
  fun_induction parseClass.go neg first inRange rs cs
  -- the closing bracket
  case case3 => cases h; exact Nat.lt_succ_self _
  -- the errors
  case case1 | case6 | case8 | case10 => cases h
  -- every other step consumes a character
  all_goals rename_i ih; exact Nat.lt_succ_of_lt (ih h)

theorem parseClass_shorter (cs : List Char) (t : Tok) (r : List Char) (h : parseClass cs = some (t, r)) : r.length < cs.length + 1 := by
  unfold parseClass at h
  simp only [] at h
  split at h <;>
    (have := parseClass_go_shorter _ _ _ _ _ _ _ h; simp only [List.length_cons] at this ⊢; omega)

theorem parseGo_fuel_succ : ∀ (fuel : Nat) (prev : Option Char) (acc : List Tok) (cs : List Char), cs.length < fuel →
    parseGo (fuel + 1) prev acc cs = parseGo fuel prev acc cs := by
  intro fuel
  induction fuel with
  | zero => intro prev acc cs h; exact absurd h (Nat.not_lt_zero _)
  | succ n ih =>
    -- Both sides are the same loop body, around `parseGo (n + 1)` and around `parseGo n`, and the body goes on
    -- at a shorter input: there the two agree (`ih`). Only the leading characters decide where it goes on.
    intro prev acc cs h
    unfold parseGo
    split
    · rfl
    -- `?`
    · exact ih _ _ _ (Nat.lt_of_succ_lt_succ h)
    -- `[`: the class parser hands back less than it was given
    · split
      · next hp => exact ih _ _ _ (Nat.lt_of_lt_of_le (parseClass_shorter _ _ _ hp) (Nat.le_of_lt_succ h))
      · rfl
    -- `\`
    · split
      · rfl
      · exact ih _ _ _ (Nat.lt_of_succ_lt (Nat.lt_of_succ_lt_succ h))
    · split
      -- `**`: which token it becomes depends on `acc` and `prev`; the loop goes on at `r2`, or behind the separator
      -- that follows, whatever they are
      · next r2 =>
        have hr2 : r2.length < n := Nat.lt_of_succ_lt (Nat.lt_of_succ_lt_succ h)
        rcases r2 with _ | ⟨c, r3⟩
        · simp only [ih _ _ [] hr2]
        · simp only [ih _ _ r3 (Nat.lt_of_succ_lt hr2), ih _ _ (c :: r3) hr2]
      -- `*`
      · exact ih _ _ _ (Nat.lt_of_succ_lt_succ h)
    -- any other character
    · exact ih _ _ _ (Nat.lt_of_succ_lt_succ h)

/-- `parse`'s fuel `length + 1` is not a cut-off -/
theorem parseGo_fuel (cs : List Char) (prev : Option Char) (acc : List Tok) (f : Nat) (hf : cs.length < f) :
    parseGo f prev acc cs = parseGo (cs.length + 1) prev acc cs := by
  induction f with
  | zero => omega
  | succ n ih =>
    by_cases h : cs.length < n
    · rw [parseGo_fuel_succ n prev acc cs h]; exact ih h
    · have : n = cs.length := by omega
      rw [this]

/-- the loop from a state on, with the fuel `parse` would give it: by `parseGo_fuel` the equations of the loop need no fuel
    arithmetic -/
def parseFrom (prev : Option Char) (acc : List Tok) (cs : List Char) : Option (List Tok) := parseGo (cs.length + 1) prev acc cs

theorem parse_eq (cs : List Char) : parse cs = parseFrom none [] cs := rfl

section
variable {prev : Option Char} {acc : List Tok} {c : Char} {r : List Char}

theorem parseFrom_nil : parseFrom prev acc [] = some acc.reverse := by
  unfold parseFrom parseGo; rfl

theorem parseFrom_step {cs cs' : List Char} {prev' : Option Char} {acc' : List Tok} (hlen : cs'.length < cs.length)
    (h : parseGo (cs.length + 1) prev acc cs = parseGo cs.length prev' acc' cs') :
    parseFrom prev acc cs = parseFrom prev' acc' cs' := by
  unfold parseFrom
  rw [h, parseGo_fuel cs' prev' acc' cs.length hlen]

theorem parseFrom_plain (hc : plain c = true) : parseFrom prev acc (c :: r) = parseFrom (some c) (.lit c :: acc) r := by
  -- `c` is none of `? [ \ *`, so `parseGo` takes its last arm; the closing `simp` finds the four facts in the context
  -- when it has to discard the other arms
  obtain ⟨_, _, _, _⟩ := plain_iff.1 hc
  apply parseFrom_step (by simp)
  conv => lhs; unfold parseGo
  simp

theorem parseFrom_recPrefix : parseFrom prev [] ('*' :: '*' :: '/' :: r) = parseFrom (some '/') [.recPrefix] r := by
  apply parseFrom_step (by simp only [List.length_cons]; omega)
  conv => lhs; unfold parseGo
  simp [isSep]

theorem parseFrom_star (hr : r.head? ≠ some '*') : parseFrom prev acc ('*' :: r) = parseFrom (some '*') (.star :: acc) r := by
  apply parseFrom_step (by simp)
  conv => lhs; unfold parseGo
  cases r with
  | nil => simp
  | cons d r => simp [show d ≠ '*' by simpa using hr]

/-- `**/` behind a separator (`prev`): the token read last (a literal here; in `x/**/*` the slash itself), the two stars and
    the slash after them become one token -/
theorem parseFrom_recMid : parseFrom (some '/') (.lit c :: acc) ('*' :: '*' :: '/' :: r) = parseFrom (some '/') (.recMid :: acc) r := by
  apply parseFrom_step (by simp only [List.length_cons]; omega)
  conv => lhs; unfold parseGo
  simp [isSep]

/-- `s.foldl (fun _ c => some c) prev` is the character read last (`prev` if `s` is empty) -/
theorem parseFrom_lits (s : List Char) (hs : ∀ c ∈ s, plain c = true) (rest : List Char) :
    parseFrom prev acc (s ++ rest) = parseFrom (s.foldl (fun _ c => some c) prev) ((lits s).reverse ++ acc) rest := by
  induction s generalizing prev acc with
  | nil => rfl
  | cons c s ih =>
    rw [List.cons_append, parseFrom_plain (hs c List.mem_cons_self), ih (fun d hd => hs d (List.mem_cons_of_mem _ hd))]
    simp [lits]

theorem parseFrom_lits_end (s : List Char) (hs : ∀ c ∈ s, plain c = true) : parseFrom prev acc s = some (acc.reverse ++ lits s) := by
  have := parseFrom_lits (prev := prev) (acc := acc) s hs []
  rw [List.append_nil, parseFrom_nil] at this
  simpa using this

end

theorem parse_plain (s : List Char) (hs : ∀ c ∈ s, plain c = true) : parse s = some (lits s) :=
  parseFrom_lits_end s hs

theorem parse_recPrefix_plain (s : List Char) (hs : ∀ c ∈ s, plain c = true) :
    parse ('*' :: '*' :: '/' :: s) = some (.recPrefix :: lits s) := by
  rw [parse_eq, parseFrom_recPrefix, parseFrom_lits_end s hs]; rfl

theorem parse_star_ext (e : List Char) (he : ∀ c ∈ e, plain c = true) :
    parse ('*' :: '*' :: '/' :: '*' :: '.' :: e) = some (.recPrefix :: .star :: lits ('.' :: e)) := by
  have hd : ∀ c ∈ '.' :: e, plain c = true := List.forall_mem_cons.2 ⟨by decide, he⟩
  rw [parse_eq, parseFrom_recPrefix, parseFrom_star (by simp), parseFrom_lits_end _ hd]; rfl

theorem parse_dir_contents (x : List Char) (hx : ∀ c ∈ x, plain c = true) :
    parse (x ++ ['/', '*', '*', '/', '*']) = some (lits x ++ [.recMid, .star]) := by
  rw [parse_eq, parseFrom_lits x hx, parseFrom_plain plain_slash, parseFrom_recMid, parseFrom_star (by simp), parseFrom_nil]
  simp

/-- globset's special case concerns the glob `**` alone -/
theorem mtch_eq {ts : List Tok} (h : ts ≠ [.recPrefix]) (s : List Char) : mtch ts s = mtchToks ts s := by
  simp [mtch, h]

theorem mtchToks_lits_append (p : List Char) (ts : List Tok) (s : List Char) :
    mtchToks (lits p ++ ts) s = true ↔ ∃ v, s = p ++ v ∧ mtchToks ts v = true := by
  induction p generalizing s with
  | nil => simp [lits]
  | cons c p ih =>
    cases s with
    | nil => simp [lits, mtchToks, matchTok]
    | cons d s =>
      have := ih s
      simp only [lits, List.map_cons, List.cons_append, mtchToks, matchTok, Bool.and_eq_true, beq_iff_eq, List.cons.injEq] at this ⊢
      rw [this]
      constructor
      · rintro ⟨rfl, v, rfl, h⟩; exact ⟨v, ⟨rfl, rfl⟩, h⟩
      · rintro ⟨v, ⟨rfl, rfl⟩, h⟩; exact ⟨rfl, v, rfl, h⟩

theorem lits_iff (p s : List Char) : mtchToks (lits p) s = true ↔ s = p := by
  have := mtchToks_lits_append p [] s
  simpa [mtchToks] using this

theorem mem_suffixes {s suf : List Char} : suf ∈ suffixes s ↔ suf <:+ s := by
  induction s with
  | nil => simp [suffixes]
  | cons c r ih => simp [suffixes, ih, List.suffix_cons_iff]

theorem mtchToks_recPrefix (ts : List Tok) (s : List Char) :
    mtchToks (.recPrefix :: ts) s = true ↔ mtchToks ts s = true ∨ ∃ pre r, s = pre ++ '/' :: r ∧ mtchToks ts r = true := by
  simp only [mtchToks, matchTok, Bool.or_eq_true, List.any_eq_true, mem_suffixes]
  refine or_congr Iff.rfl ⟨?_, ?_⟩
  · rintro ⟨suf, ⟨pre, rfl⟩, h⟩
    split at h
    · exact ⟨pre, _, rfl, h⟩
    · cases h
  · rintro ⟨pre, r, rfl, h⟩
    exact ⟨'/' :: r, ⟨pre, rfl⟩, h⟩

theorem recPrefix_lits_iff (name s : List Char) :
    mtchToks (.recPrefix :: lits name) s = true ↔ s = name ∨ ∃ pre, s = pre ++ '/' :: name := by
  simp only [mtchToks_recPrefix, lits_iff]
  refine or_congr Iff.rfl ⟨?_, ?_⟩
  · rintro ⟨pre, r, hp, rfl⟩; exact ⟨pre, hp⟩
  · rintro ⟨pre, hp⟩; exact ⟨pre, name, hp, rfl⟩

theorem starGo_iff (k : List Char → Bool) (s : List Char) :
    starGo k s = true ↔ ∃ base rest, s = base ++ rest ∧ (∀ c ∈ base, c ≠ '/') ∧ k rest = true := by
  induction s with
  | nil =>
    refine ⟨fun h => ⟨[], [], rfl, by simp, h⟩, ?_⟩
    rintro ⟨base, rest, hs, _, hk⟩
    rwa [(List.append_eq_nil_iff.1 hs.symm).2] at hk
  | cons d r ih =>
    simp only [starGo, Bool.or_eq_true, Bool.and_eq_true, bne_iff_ne, ne_eq, ih]
    constructor
    · rintro (h | ⟨hd, base, rest, rfl, hb, hk⟩)
      · exact ⟨[], d :: r, rfl, by simp, h⟩
      · exact ⟨d :: base, rest, rfl, by simpa [hd] using hb, hk⟩
    · rintro ⟨base, rest, hs, hb, hk⟩
      cases base with
      | nil => exact Or.inl (hs ▸ hk)
      | cons b base =>
        obtain ⟨rfl, rfl⟩ := List.cons.inj hs
        exact Or.inr ⟨hb d List.mem_cons_self, base, rest, rfl, fun c hc => hb c (List.mem_cons_of_mem _ hc), hk⟩

theorem mtchToks_star_lits (ext t : List Char) :
    mtchToks (.star :: lits ext) t = true ↔ ∃ stem, t = stem ++ ext ∧ ∀ c ∈ stem, c ≠ '/' := by
  show starGo (mtchToks (lits ext)) t = true ↔ _
  simp only [starGo_iff, lits_iff]
  constructor
  · rintro ⟨stem, _, rfl, hb, rfl⟩; exact ⟨stem, rfl, hb⟩
  · rintro ⟨stem, rfl, hb⟩; exact ⟨stem, ext, rfl, hb, rfl⟩

theorem star_ext_iff (ext s : List Char) :
    mtchToks (.recPrefix :: .star :: lits ext) s = true ↔
      ∃ pre stem, (s = stem ++ ext ∨ s = pre ++ '/' :: (stem ++ ext)) ∧ ∀ c ∈ stem, c ≠ '/' := by
  simp only [mtchToks_recPrefix, mtchToks_star_lits]
  constructor
  · rintro (⟨stem, ht, hb⟩ | ⟨pre, _, hp, stem, rfl, hb⟩)
    · exact ⟨[], stem, Or.inl ht, hb⟩
    · exact ⟨pre, stem, Or.inr hp, hb⟩
  · rintro ⟨pre, stem, h | h, hb⟩
    · exact Or.inl ⟨stem, h, hb⟩
    · exact Or.inr ⟨pre, _, h, stem, rfl, hb⟩

theorem mtchToks_recMid (ts : List Tok) (s : List Char) :
    mtchToks (.recMid :: ts) s = true ↔ ∃ r, s = '/' :: r ∧ mtchToks (.recPrefix :: ts) r = true := by
  cases s with
  | nil => simp [mtchToks, matchTok]
  | cons a r =>
    by_cases ha : a = '/'
    · subst ha; simp [mtchToks, matchTok]
    · simp [mtchToks, matchTok, ha]

theorem last_slash (r : List Char) : (∀ c ∈ r, c ≠ '/') ∨ ∃ pre t, r = pre ++ '/' :: t ∧ ∀ c ∈ t, c ≠ '/' := by
  induction r with
  | nil => exact Or.inl fun _ h => nomatch h
  | cons d r ih =>
    rcases ih with h | ⟨pre, t, rfl, ht⟩
    · by_cases hd : d = '/'
      · exact Or.inr ⟨[], r, by rw [hd]; rfl, h⟩
      · exact Or.inl fun c hc => (List.mem_cons.1 hc).elim (fun e => e ▸ hd) (h c)
    · exact Or.inr ⟨d :: pre, t, rfl, ht⟩

theorem dir_contents_iff (x s : List Char) :
    mtchToks (lits x ++ [.recMid, .star]) s = true ↔ ∃ rest, s = x ++ '/' :: rest := by
  have star : ∀ t, mtchToks [.star] t = true ↔ ∀ c ∈ t, c ≠ '/' := by
    intro t
    have := mtchToks_star_lits [] t
    simpa [lits] using this
  simp only [mtchToks_lits_append, mtchToks_recMid, mtchToks_recPrefix, star]
  constructor
  · rintro ⟨_, rfl, rest, rfl, _⟩
    exact ⟨rest, rfl⟩
  · rintro ⟨rest, rfl⟩
    -- behind the slash `**/*` accepts everything: what follows the last slash, if there is one, is slash-free
    exact ⟨_, rfl, rest, rfl, last_slash rest⟩

#print axioms recPrefix_lits_iff
#print axioms star_ext_iff
#print axioms dir_contents_iff
#print axioms parse_plain
#print axioms parseGo_fuel

/-- text the model's parser takes literally, without separators or blanks, not starting like a comment or a negation -/
structure Clean (n : List Char) : Prop where
  ne : n ≠ []
  chars : ∀ c ∈ n, plain c = true ∧ c ≠ '/' ∧ c.isWhitespace = false
  first : n.head? ≠ some '#' ∧ n.head? ≠ some '!'

/-- the `core` of a gitignore line `[!]core[/]` on which `add_line` does nothing but strip the `!` and the `/` (`addLine_ok`) -/
structure LineOk (core : List Char) : Prop where
  ne : core ≠ []
  noBlank : ∀ c ∈ core, c.isWhitespace = false
  first : core.head? ≠ some '#' ∧ core.head? ≠ some '!' ∧ core.head? ≠ some '\\'
  last : core.getLast? ≠ some '/' ∧ core.getLast? ≠ some '\\'

def unanchored (core : List Char) : List Char := if startsWith core ['/'] then core.drop 1 else core

theorem trimRight_noBlank {l : List Char} (h : ∀ c ∈ l, c.isWhitespace = false) : trimRight l = l := by
  unfold trimRight
  cases hr : l.reverse with
  | nil => simpa using hr.symm
  | cons a rr =>
    have : a ∈ l := List.mem_reverse.1 (hr ▸ List.mem_cons_self)
    rw [List.dropWhile_cons_of_neg (by simp [h a this]), ← hr, List.reverse_reverse]

theorem endsWith_esc_noBlank {l : List Char} (h : ∀ c ∈ l, c.isWhitespace = false) : endsWith l ['\\', ' '] = false :=
  endsWith_last_ne rfl fun hl => absurd (h ' ' (List.mem_of_getLast? hl)) (by decide)

theorem Clean.plainAll {n : List Char} (h : Clean n) : ∀ c ∈ n, plain c = true := fun c hc => (h.chars c hc).1

theorem Clean.noSlash {n : List Char} (h : Clean n) : n.any (· == '/') = false := by
  rw [List.any_eq_false]
  intro c hc; simpa using (h.chars c hc).2.1

theorem Clean.trim {n : List Char} (h : Clean n) : trimRight n = n := trimRight_noBlank fun c hc => (h.chars c hc).2.2

theorem Clean.noEsc {n : List Char} (h : Clean n) : endsWith n ['\\', ' '] = false := endsWith_esc_noBlank fun c hc => (h.chars c hc).2.2

theorem Clean.not_mem {n : List Char} (h : Clean n) {x : Char} (hx : plain x = false ∨ x = '/') : x ∉ n := by
  intro hm
  have := h.chars x hm
  rcases hx with hx | hx
  · rw [this.1] at hx; cases hx
  · exact this.2.1 hx

theorem Clean.head_ne {n : List Char} (h : Clean n) {x : Char} (hx : plain x = false ∨ x = '/') : n.head? ≠ some x :=
  fun e => h.not_mem hx (List.mem_of_head? e)

theorem Clean.last_ne {n : List Char} (h : Clean n) {x : Char} (hx : plain x = false ∨ x = '/') : n.getLast? ≠ some x :=
  fun e => h.not_mem hx (List.mem_of_getLast? e)

theorem Clean.lineOk {n : List Char} (h : Clean n) : LineOk n :=
  ⟨h.ne, fun c hc => (h.chars c hc).2.2, ⟨h.first.1, h.first.2, h.head_ne (.inl rfl)⟩, h.last_ne (.inr rfl), h.last_ne (.inl rfl)⟩

theorem LineOk.slash_cons {l : List Char} (h : LineOk l) : LineOk ('/' :: l) where
  ne := by simp
  noBlank := List.forall_mem_cons.2 ⟨rfl, h.noBlank⟩
  first := by simp
  last := by rw [show '/' :: l = ['/'] ++ l from rfl, getLast?_append_of_ne_nil _ h.ne]; exact h.last

theorem LineOk.append {a b : List Char} (ha : LineOk a) (hb : LineOk b) : LineOk (a ++ b) where
  ne := by simp [ha.ne]
  noBlank := List.forall_mem_append.2 ⟨ha.noBlank, hb.noBlank⟩
  first := by rw [head?_append_of_ne_nil b ha.ne]; exact ha.first
  last := by rw [getLast?_append_of_ne_nil a hb.ne]; exact hb.last

theorem startsWith_head_ne {l p : List Char} {d : Char} (h : l.head? ≠ some d) : startsWith l (d :: p) = false := by
  cases l with
  | nil => rfl
  | cons c r => simp [startsWith_cons_cons, show c ≠ d by simpa using h]

theorem startsWith_slash_cons (n : List Char) : startsWith ('/' :: n) ['/'] = true := by
  simp [startsWith_cons_cons, startsWith_nil]

theorem unanchored_slash_cons (n : List Char) : unanchored ('/' :: n) = n := by
  simp [unanchored, startsWith_slash_cons]

theorem unanchored_of_ne {l : List Char} (h : l.head? ≠ some '/') : unanchored l = l := by
  simp [unanchored, startsWith_head_ne h]

theorem linePrefix_ok (neg : Bool) (core tail : List Char) (h : LineOk core) :
    linePrefix ((if neg then ['!'] else []) ++ core ++ tail) = (neg, startsWith core ['/'], unanchored core ++ tail) := by
  obtain ⟨c, r, rfl⟩ := List.exists_cons_of_ne_nil h.ne
  have h2 : c ≠ '!' := by simpa using h.first.2.1
  have h3 : c ≠ '\\' := by simpa using h.first.2.2
  cases neg <;> simp [linePrefix, unanchored, startsWith_cons_cons, startsWith_nil, h2, h3]
  -- what is left moves `++ tail` into the test for the anchoring slash
  all_goals exact (apply_ite (· ++ tail) (c = '/') r (c :: r)).symm

theorem unanchored_last {core : List Char} (h : LineOk core) :
    (unanchored core).getLast? ≠ some '/' ∧ (unanchored core).getLast? ≠ some '\\' := by
  by_cases hs : core.head? = some '/'
  · obtain ⟨r, rfl⟩ := List.head?_eq_some_iff.1 hs
    rw [unanchored_slash_cons]
    cases r with
    | nil => simp
    | cons d r => have := h.last; rwa [List.getLast?_cons_cons] at this
  · rw [unanchored_of_ne hs]; exact h.last

theorem lineDir_ok (onlyDir : Bool) (x : List Char) (h1 : x.getLast? ≠ some '/') (h2 : x.getLast? ≠ some '\\') :
    lineDir (x ++ (if onlyDir then ['/'] else [])) = (onlyDir, x) := by
  cases onlyDir
  · simp [lineDir, h1]
  · simp [lineDir, h2]

theorem addLine_ok (neg onlyDir : Bool) (core : List Char) (h : LineOk core) :
    addLine ((if neg then ['!'] else []) ++ core ++ (if onlyDir then ['/'] else [])) =
      match parse (lineGlob (startsWith core ['/']) (unanchored core)) with
      | some toks => some (some ⟨(if neg then ['!'] else []) ++ core ++ (if onlyDir then ['/'] else []), toks, neg, onlyDir⟩)
      | none => some none := by
  have hp := linePrefix_ok neg core (if onlyDir then ['/'] else []) h
  have hd := lineDir_ok onlyDir (unanchored core) (unanchored_last h).1 (unanchored_last h).2
  obtain ⟨c, r, rfl⟩ := List.exists_cons_of_ne_nil h.ne
  have hhash : startsWith ((if neg then ['!'] else []) ++ c :: r ++ (if onlyDir then ['/'] else [])) ['#'] = false := by
    have : c ≠ '#' := by simpa using h.first.1
    cases neg <;> simp [startsWith_cons_cons, this]
  have hemp : ((if neg then ['!'] else []) ++ c :: r ++ (if onlyDir then ['/'] else [])).isEmpty = false := by
    cases neg <;> rfl
  have hfb : ∀ d ∈ (if neg then ['!'] else []) ++ c :: r ++ (if onlyDir then ['/'] else []), d.isWhitespace = false := by
    intro d hd
    simp only [List.mem_append] at hd
    rcases hd with (hd | hd) | hd
    · cases neg <;> simp at hd; subst hd; decide
    · exact h.noBlank d hd
    · cases onlyDir <;> simp at hd; subst hd; decide
  generalize (if neg then ['!'] else []) ++ c :: r ++ (if onlyDir then ['/'] else []) = full at hp hhash hemp hfb ⊢
  unfold addLine
  simp only [hhash, Bool.false_eq_true, if_false, endsWith_esc_noBlank hfb, trimRight_noBlank hfb, hemp, hp, hd]
  cases parse (lineGlob (startsWith (c :: r) ['/']) (unanchored (c :: r))) <;> rfl

/-- `addLine_ok` with the tokens known: the form the lemmas about particular lines use -/
theorem addLine_of_parse (neg onlyDir : Bool) {core : List Char} (h : LineOk core) {toks : List Tok}
    (hp : parse (lineGlob (startsWith core ['/']) (unanchored core)) = some toks) :
    addLine ((if neg then ['!'] else []) ++ core ++ (if onlyDir then ['/'] else [])) =
      some (some ⟨(if neg then ['!'] else []) ++ core ++ (if onlyDir then ['/'] else []), toks, neg, onlyDir⟩) := by
  rw [addLine_ok neg onlyDir core h, hp]

theorem addLine_of_parse_unanchored (neg onlyDir : Bool) {core : List Char} (h : LineOk core) (hs : core.head? ≠ some '/')
    {toks : List Tok} (hp : parse (lineGlob false core) = some toks) :
    addLine ((if neg then ['!'] else []) ++ core ++ (if onlyDir then ['/'] else [])) =
      some (some ⟨(if neg then ['!'] else []) ++ core ++ (if onlyDir then ['/'] else []), toks, neg, onlyDir⟩) :=
  addLine_of_parse neg onlyDir h (by rwa [startsWith_head_ne hs, unanchored_of_ne hs])

theorem lineGlob_keep (abs : Bool) {line : List Char} (hl : line.getLast? ≠ some '*')
    (h : abs = true ∨ line.any (· == '/') = true) : lineGlob abs line = line := by
  have : (!abs && !line.any (· == '/')) = false := by rcases h with h | h <;> simp [h]
  simp [lineGlob, this, endsWith_last_ne (by rfl : ['/', '*', '*'].getLast? = some '*') hl]

theorem lineGlob_free {line : List Char} (hl : line.getLast? ≠ some '*')
    (hs : line.any (· == '/') = false) (h2 : (startsWith line ['*', '*', '/'] || line == ['*', '*']) = false) :
    lineGlob false line = '*' :: '*' :: '/' :: line := by
  have h3 : endsWith ('*' :: '*' :: '/' :: line) ['/', '*', '*'] = false :=
    endsWith_last_ne rfl (by rw [List.getLast?_cons_cons, List.getLast?_cons_cons]; exact getLast?_cons_ne (by decide) hl)
  unfold lineGlob
  simp only [hs, h2, h3, Bool.not_false, Bool.and_self, Bool.false_eq_true, if_false, if_true, List.cons_append, List.nil_append]

theorem lineGlob_contents (abs : Bool) (x : List Char) :
    lineGlob abs (x ++ ['/', '*', '*']) = x ++ ['/', '*', '*', '/', '*'] := by
  have h1 : (x ++ ['/', '*', '*']).any (· == '/') = true := by simp
  have h2 : endsWith (x ++ ['/', '*', '*']) ['/', '*', '*'] = true := by simp [endsWith]
  simp [lineGlob, h1, h2]

theorem Clean.lineGlob {n : List Char} (h : Clean n) : lineGlob false n = '*' :: '*' :: '/' :: n := by
  refine lineGlob_free (h.last_ne (.inl rfl)) h.noSlash ?_
  -- `n` holds no `*`: it neither starts with `**/` nor is `**`
  rw [startsWith_head_ne (h.head_ne (.inl rfl)), Bool.false_or, beq_eq_false_iff_ne]
  rintro rfl
  exact h.not_mem (x := '*') (.inl rfl) List.mem_cons_self

theorem addLine_name (neg onlyDir : Bool) (n : List Char) (h : Clean n) :
    addLine ((if neg then ['!'] else []) ++ n ++ (if onlyDir then ['/'] else [])) =
      some (some ⟨(if neg then ['!'] else []) ++ n ++ (if onlyDir then ['/'] else []), .recPrefix :: lits n, neg, onlyDir⟩) := by
  apply addLine_of_parse_unanchored neg onlyDir h.lineOk (h.head_ne (.inr rfl))
  rw [h.lineGlob]
  exact parse_recPrefix_plain _ h.plainAll

theorem name_matches (n s : List Char) (h : Clean n) :
    mtch (.recPrefix :: lits n) s = true ↔ s = n ∨ ∃ pre, s = pre ++ '/' :: n := by
  rw [mtch_eq (by simp [lits, h.ne])]
  exact recPrefix_lits_iff n s

theorem addLine_rooted (neg onlyDir : Bool) (n : List Char) (h : Clean n) :
    addLine ((if neg then ['!'] else []) ++ '/' :: n ++ (if onlyDir then ['/'] else [])) =
      some (some ⟨(if neg then ['!'] else []) ++ '/' :: n ++ (if onlyDir then ['/'] else []), lits n, neg, onlyDir⟩) := by
  apply addLine_of_parse neg onlyDir h.lineOk.slash_cons
  rw [startsWith_slash_cons, unanchored_slash_cons, lineGlob_keep true (h.last_ne (.inl rfl)) (Or.inl rfl)]
  exact parse_plain n h.plainAll

theorem rooted_matches (n s : List Char) (h : Clean n) : mtch (lits n) s = true ↔ s = n := by
  have _ := h  -- the statement carries it; the proof does not need it: literals match themselves whatever they are
  rw [mtch_eq (by simp [lits])]
  exact lits_iff n s

theorem addLine_inner_slash (neg onlyDir : Bool) (a b : List Char) (ha : Clean a) (hb : Clean b) :
    addLine ((if neg then ['!'] else []) ++ (a ++ '/' :: b) ++ (if onlyDir then ['/'] else [])) =
      some (some ⟨(if neg then ['!'] else []) ++ (a ++ '/' :: b) ++ (if onlyDir then ['/'] else []), lits (a ++ '/' :: b), neg, onlyDir⟩) := by
  have hhead : (a ++ '/' :: b).head? ≠ some '/' := by rw [head?_append_of_ne_nil _ ha.ne]; exact ha.head_ne (.inr rfl)
  have hlast : (a ++ '/' :: b).getLast? ≠ some '*' := by
    rw [getLast?_append_of_ne_nil a (List.cons_ne_nil _ _)]; exact getLast?_cons_ne (by decide) (hb.last_ne (.inl rfl))
  apply addLine_of_parse_unanchored neg onlyDir (ha.lineOk.append hb.lineOk.slash_cons) hhead
  rw [lineGlob_keep false hlast (Or.inr (by simp))]
  exact parse_plain _ (List.forall_mem_append.2 ⟨ha.plainAll, List.forall_mem_cons.2 ⟨plain_slash, hb.plainAll⟩⟩)

#print axioms addLine_name
#print axioms addLine_ok
#print axioms addLine_rooted
#print axioms addLine_inner_slash

theorem addLine_star_ext (neg onlyDir : Bool) (e : List Char) (h : Clean e) :
    addLine ((if neg then ['!'] else []) ++ '*' :: '.' :: e ++ (if onlyDir then ['/'] else [])) =
      some (some ⟨(if neg then ['!'] else []) ++ '*' :: '.' :: e ++ (if onlyDir then ['/'] else []),
        .recPrefix :: .star :: lits ('.' :: e), neg, onlyDir⟩) := by
  have hany : ('*' :: '.' :: e).any (· == '/') = false := by rw [List.any_cons, List.any_cons, h.noSlash]; rfl
  have hlast : ('*' :: '.' :: e).getLast? ≠ some '*' := by
    rw [List.getLast?_cons_cons]; exact getLast?_cons_ne (by decide) (h.last_ne (.inl rfl))
  have ok : LineOk ['*', '.'] := ⟨by decide, by decide, by decide, by decide⟩
  apply addLine_of_parse_unanchored neg onlyDir (core := '*' :: '.' :: e) (ok.append h.lineOk) (by simp)
  rw [lineGlob_free hlast hany rfl]
  exact parse_star_ext e h.plainAll

theorem star_ext_matches (e s : List Char) :
    mtch (.recPrefix :: .star :: lits ('.' :: e)) s = true ↔
      ∃ pre stem, (s = stem ++ '.' :: e ∨ s = pre ++ '/' :: (stem ++ '.' :: e)) ∧ ∀ c ∈ stem, c ≠ '/' := by
  rw [mtch_eq (by simp)]
  exact star_ext_iff ('.' :: e) s

theorem addLine_dir_contents (neg : Bool) (x : List Char) (h : Clean x) :
    addLine ((if neg then ['!'] else []) ++ (x ++ ['/', '*', '*'])) =
      some (some ⟨(if neg then ['!'] else []) ++ (x ++ ['/', '*', '*']), lits x ++ [.recMid, .star], neg, false⟩) := by
  have ok : LineOk ['/', '*', '*'] := ⟨by decide, by decide, by decide, by decide⟩
  have hhead : (x ++ ['/', '*', '*']).head? ≠ some '/' := by rw [head?_append_of_ne_nil _ h.ne]; exact h.head_ne (.inr rfl)
  have hp : parse (lineGlob false (x ++ ['/', '*', '*'])) = some (lits x ++ [.recMid, .star]) := by
    rw [lineGlob_contents]; exact parse_dir_contents _ h.plainAll
  simpa only [Bool.false_eq_true, if_false, List.append_nil] using addLine_of_parse_unanchored neg false (h.lineOk.append ok) hhead hp

theorem dir_contents_matches (x s : List Char) (h : Clean x) :
    mtch (lits x ++ [.recMid, .star]) s = true ↔ ∃ rest, s = x ++ '/' :: rest := by
  have _ := h  -- the statement carries it; the proof does not need it
  rw [mtch_eq (by cases x <;> simp [lits])]
  exact dir_contents_iff x s

#print axioms addLine_star_ext
#print axioms addLine_dir_contents
end Sp.Glob
