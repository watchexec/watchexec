import Wx.Glob.Prefix
/-! The `match_path` loop equals nearest-component-ancestor-first evaluation.
    Parametric in the per-node verdict `ev`. -/
namespace Sp.C03
open Sp.Pfx

variable {V : Type}

/-- a node = its key (the directory it applies in; [] is the global node "/") -/
abbrev Key := CPath

/-- radix-trie `get_ancestor`: a longest key whose display body is a STRING prefix of `σ` -/
def ancestor (keys : List Key) (σ : List Char) : Option Key :=
  keys.foldl (fun best k =>
    if body k <+: σ then
      match best with
      | some b => if (body b).length < (body k).length then some k else best
      | none => some k
    else best) none

/-- the loop: consult a node only if its key is a component-wise ancestor of the probe -/
def go (keys : List Key) (ev : Key → Option V) (p : CPath) : Nat → List Char → Option V
  | 0, _ => none
  | fuel + 1, σ =>
    match ancestor keys σ with
    | none => none
    | some k =>
      let r := if k <+: p then ev k else none
      match r with
      | some v => some v
      | none => if k = [] then none else go keys ev p fuel (body k.dropLast)

/-- spec: the component-wise ancestors of `p` among the keys, nearest (longest) first -/
def specFrom (keys : List Key) (ev : Key → Option V) (p : CPath) : Nat → Option V
  | 0 => if [] ∈ keys then ev [] else none
  | n + 1 =>
    let k := p.take (n + 1)
    if k.length = n + 1 ∧ k ∈ keys then
      match ev k with
      | some v => some v
      | none => specFrom keys ev p n
    else specFrom keys ev p n

def spec (keys : List Key) (ev : Key → Option V) (p : CPath) : Option V := specFrom keys ev p p.length

theorem ancestor_concat (l : List Key) (a : Key) (σ : List Char) :
    ancestor (l ++ [a]) σ =
      if body a <+: σ then
        match ancestor l σ with
        | some b => if (body b).length < (body a).length then some a else ancestor l σ
        | none => some a
      else ancestor l σ := by
  simp only [ancestor, List.foldl_append, List.foldl_cons, List.foldl_nil]

theorem ancestor_spec (keys : List Key) (σ : List Char) :
    match ancestor keys σ with
    | some k => k ∈ keys ∧ body k <+: σ ∧ ∀ k' ∈ keys, body k' <+: σ → (body k').length ≤ (body k).length
    | none => ∀ k' ∈ keys, ¬ body k' <+: σ := by
  -- keys are folded in from the left: induction on the reversed list
  rw [← List.reverse_reverse keys]
  induction keys.reverse with
  | nil => simp [ancestor]
  | cons a l ih =>
    rw [List.reverse_cons, ancestor_concat]
    simp only [List.mem_append, List.mem_singleton, or_imp, forall_and, forall_eq]
    by_cases ha : body a <+: σ
    · rw [if_pos ha]
      cases hb : ancestor l.reverse σ with
      | none =>
        rw [hb] at ih
        exact ⟨Or.inr rfl, ha, fun k' hk' h => absurd h (ih k' hk'), fun _ => Nat.le_refl _⟩
      | some b =>
        rw [hb] at ih
        obtain ⟨hbm, hbσ, hmax⟩ := ih
        dsimp only
        by_cases hlt : (body b).length < (body a).length
        · rw [if_pos hlt]
          exact ⟨Or.inr rfl, ha, fun k' hk' h => Nat.le_of_lt (Nat.lt_of_le_of_lt (hmax k' hk' h) hlt), fun _ => Nat.le_refl _⟩
        · rw [if_neg hlt]
          exact ⟨Or.inl hbm, hbσ, hmax, fun _ => Nat.le_of_not_lt hlt⟩
    · rw [if_neg ha]
      cases hb : ancestor l.reverse σ with
      | none => rw [hb] at ih; exact ⟨ih, ha⟩
      | some b =>
        rw [hb] at ih
        exact ⟨Or.inl ih.1, ih.2.1, ih.2.2, fun h => absurd h ha⟩

theorem ancestor_some {keys : List Key} {σ : List Char} {k : Key} (h : ancestor keys σ = some k) :
    k ∈ keys ∧ body k <+: σ ∧ ∀ k' ∈ keys, body k' <+: σ → (body k').length ≤ (body k).length := by
  have := ancestor_spec keys σ
  rwa [h] at this

theorem ancestor_none {keys : List Key} {σ : List Char} (h : ancestor keys σ = none) : ∀ k' ∈ keys, ¬ body k' <+: σ := by
  have := ancestor_spec keys σ
  rwa [h] at this

theorem specFrom_zero {keys : List Key} {ev : Key → Option V} {p : CPath} : specFrom keys ev p 0 = if [] ∈ keys then ev [] else none := rfl

theorem specFrom_succ {keys : List Key} {ev : Key → Option V} {p : CPath} {n : Nat} (hn : n < p.length) :
    specFrom keys ev p (n + 1) =
      if p.take (n + 1) ∈ keys then
        match ev (p.take (n + 1)) with
        | some v => some v
        | none => specFrom keys ev p n
      else specFrom keys ev p n := by
  have : (p.take (n + 1)).length = n + 1 := by rw [List.length_take]; omega
  simp only [specFrom, this, true_and]

theorem specFrom_skip {keys : List Key} {ev : Key → Option V} {p : CPath} {m n : Nat} (hmn : m ≤ n) (hn : n ≤ p.length)
    (hno : ∀ i, m < i → i ≤ n → p.take i ∉ keys) : specFrom keys ev p n = specFrom keys ev p m := by
  induction n with
  | zero => rw [Nat.le_zero.1 hmn]
  | succ n ih =>
    by_cases hm : m = n + 1
    · rw [hm]
    · rw [specFrom_succ hn, if_neg (hno (n + 1) (by omega) (Nat.le_refl _))]
      exact ih (by omega) (by omega) (fun i hi hin => hno i hi (by omega))

/-- `k` need not be a component prefix of `p` (its last component may be a proper string prefix of the component `p`
    has there), but its parent is one, and a key at a level in `(m, n]` other than `k` would have a longer display. -/
theorem nearest_level {keys : List Key} {p k : CPath} {n : Nat} (hk : okPath k) (hp : okPath p) (hne : k ≠ [])
    (hkσ : body k <+: body (p.take n))
    (hmax : ∀ k' ∈ keys, body k' <+: body (p.take n) → (body k').length ≤ (body k).length) :
    ∃ m, m < n ∧ k.length = m + 1 ∧ k.dropLast = p.take m ∧
      ∀ i, m < i → i ≤ n → p.take i ∈ keys → p.take i = k := by
  obtain ⟨k0, c, c', rest, rfl, hs, hcc⟩ := body_prefix_shape hk (okPath_take hp n) hne hkσ
  have hk0 : k0 <+: p := (List.prefix_append k0 _).trans (hs ▸ List.take_prefix n p)
  have hm : k0.length < n ∧ k0.length < p.length := by
    have := congrArg List.length hs
    simp [List.length_take] at this
    omega
  refine ⟨k0.length, hm.1, by simp, by rw [List.dropLast_concat]; exact List.prefix_iff_eq_take.1 hk0, ?_⟩
  intro i hi hin hik
  -- `p.take i` extends `k0 ++ [c']`, whose display is no shorter than that of `k0 ++ [c]`
  obtain ⟨t, ht⟩ : k0 ++ [c'] <+: p.take i :=
    List.prefix_of_prefix_length_le (by rw [hs]; exact ⟨rest, by simp⟩) (List.take_prefix_take_left hin)
      (by simp [List.length_take]; omega)
  have h1 := hmax _ hik (body_take_mono p hin)
  have h2 := hcc.length_le
  rw [← ht] at h1 ⊢
  simp only [body_length_append, body_length_cons] at h1
  have ht0 : t = [] := by
    cases t with
    | nil => rfl
    | cons d t => rw [body_length_cons] at h1; omega
  rw [ht0, List.append_nil, hcc.eq_of_length_le (by omega)]

/-- from the display string of `p`'s first `n` components, with fuel above `n`, the loop returns what `specFrom` returns from level `n`
    down: strong induction on the level, since one hop may pass several levels -/
theorem go_take (keys : List Key) (ev : Key → Option V) (p : CPath)
    (hok : ∀ k ∈ keys, okPath k) (hp : okPath p) :
    ∀ n, n ≤ p.length → ∀ fuel, n + 1 ≤ fuel →
      go keys ev p fuel (body (p.take n)) = specFrom keys ev p n := by
  intro n
  induction n using Nat.strongRecOn with
  | _ n ih =>
    intro hn fuel hfuel
    obtain ⟨fuel, rfl⟩ : ∃ f, fuel = f + 1 := ⟨fuel - 1, by omega⟩
    cases hanc : ancestor keys (body (p.take n)) with
    | none =>
      simp only [go, hanc]
      have hnone : ∀ i, i ≤ n → p.take i ∉ keys := fun i hi hk => ancestor_none hanc _ hk (body_take_mono p hi)
      have h0 : [] ∉ keys := hnone 0 (Nat.zero_le _)
      rw [specFrom_skip (Nat.zero_le _) hn (fun i _ hi => hnone i hi), specFrom_zero, if_neg h0]
    | some k =>
      simp only [go, hanc]
      obtain ⟨hk, hkσ, hmax⟩ := ancestor_some hanc
      by_cases hk0 : k = []
      · -- the root: every key below it on the way to level n would have a longer display
        subst hk0
        have hskip : specFrom keys ev p n = specFrom keys ev p 0 := by
          apply specFrom_skip (Nat.zero_le _) hn
          intro i hi hin hik
          have h1 : (body (p.take i)).length ≤ 0 := hmax _ hik (body_take_mono p hin)
          have h2 : 0 < (body (p.take i)).length := body_take_lt (p := p) hi (by omega)
          omega
        rw [hskip, specFrom_zero, if_pos hk, if_pos List.nil_prefix]
        cases ev [] <;> rfl
      · -- otherwise the level of `k` is the only one down to its parent that may hold a key,
        -- and it does exactly if `k` is a component ancestor of `p`
        obtain ⟨m, hmn, hkl, hdl, honly⟩ := nearest_level (hok k hk) hp hk0 hkσ hmax
        have hskip : specFrom keys ev p n = specFrom keys ev p (m + 1) := by
          apply specFrom_skip hmn hn
          intro i hi hin h
          have := congrArg List.length (honly i (by omega) hin h)
          rw [List.length_take] at this
          omega
        have hrec := ih m hmn (by omega) fuel (by omega)
        rw [hskip, specFrom_succ (by omega), hdl]
        simp only [hk0, if_false]
        by_cases hkp : k <+: p
        · have htk : p.take (m + 1) = k := by rw [← hkl]; exact (List.prefix_iff_eq_take.1 hkp).symm
          simp only [htk, hk, hkp, if_true]
          cases ev k with
          | some v => rfl
          | none => exact hrec
        · have hnk : p.take (m + 1) ∉ keys := fun h => hkp (honly (m + 1) (Nat.lt_succ_self m) hmn h ▸ List.take_prefix _ p)
          simp only [hnk, hkp, if_false]
          exact hrec

theorem go_eq_spec (keys : List Key) (ev : Key → Option V) (p : CPath)
    (hok : ∀ k ∈ keys, okPath k) (hp : okPath p) :
    go keys ev p (p.length + 1) (body p) = spec keys ev p := by
  have := go_take keys ev p hok hp p.length (Nat.le_refl _) (p.length + 1) (Nat.le_refl _)
  rw [List.take_length] at this
  exact this

/-- the loop before the repair of F12: no component check -/
def goOld (keys : List Key) (ev : Key → Option V) : Nat → List Char → Option V
  | 0, _ => none
  | fuel + 1, σ =>
    match ancestor keys σ with
    | none => none
    | some k =>
      match ev k with
      | some v => some v
      | none => if k = [] then none else goOld keys ev fuel (body k.dropLast)

/-- witness: an ignore file in `/o/test` decides a path in `/o/tests` -/
theorem goOld_ne_spec :
    let keys : List Key := [[], ["o".toList], ["o".toList, "test".toList]]
    let ev : Key → Option Nat := fun k => if k = ["o".toList, "test".toList] then some 1 else if k = ["o".toList] then some 0 else none
    let p : CPath := ["o".toList, "tests".toList, "f".toList]
    goOld keys ev (p.length + 1) (body p) = some 1 ∧ spec keys ev p = some 0 := by
  decide

theorem specFrom_congr {keys keys' : List Key} {ev ev' : Key → Option V} {p : CPath}
    (hk : ∀ k, k <+: p → (k ∈ keys ↔ k ∈ keys')) (hv : ∀ k, k <+: p → ev k = ev' k) :
    ∀ n, specFrom keys ev p n = specFrom keys' ev' p n
  | 0 => by simp only [specFrom, hk [] List.nil_prefix, hv [] List.nil_prefix]
  | n + 1 => by
    simp only [specFrom, hk _ (List.take_prefix (n + 1) p), hv _ (List.take_prefix (n + 1) p), specFrom_congr hk hv n]

theorem spec_congr (keys : List Key) (ev ev' : Key → Option V) (p : CPath)
    (h : ∀ k, k <+: p → ev k = ev' k) : spec keys ev p = spec keys ev' p :=
  specFrom_congr (fun _ _ => Iff.rfl) h _

theorem spec_keys_congr (keys keys' : List Key) (ev : Key → Option V) (p : CPath)
    (h : ∀ k, k <+: p → (k ∈ keys ↔ k ∈ keys')) : spec keys ev p = spec keys' ev p :=
  specFrom_congr h (fun _ _ => rfl) _

#print axioms go_eq_spec

/-- the law C14 asks of its filter (`Env'.scoping`), for the verdict "ignored by nearest ancestor" -/
theorem scoping_law (L : List Key) (ev : Key → Option V) (d : CPath) (hd : d ∉ L) :
    spec L ev d = spec (L.filter (fun a => a.isPrefixOf d && a != d)) ev d := by
  apply spec_keys_congr
  intro k hk
  simp only [List.mem_filter, Bool.and_eq_true, List.isPrefixOf_iff_prefix, bne_iff_ne, ne_eq]
  constructor
  · intro hin
    exact ⟨hin, hk, fun he => hd (he ▸ hin)⟩
  · rintro ⟨hin, _, _⟩; exact hin

#print axioms scoping_law
end Sp.C03
