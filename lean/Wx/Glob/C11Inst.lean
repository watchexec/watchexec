import Wx.Glob.C11
import Wx.Glob.Globset
/-! C11: the abstract decision of `Wx/Glob/C11.lean` instantiated with the concrete glob matcher, the
    concrete ignore-file layer (the filter of C03) and `Path::extension`. `checkEventC` is the function
    the driver runs against the real `GlobsetFilterer::check_event`, so every theorem of `Sp.C11`
    holds — by instantiation — for the very function the correspondence stream validates. -/
namespace Sp.GS
open Sp.IF Sp.Glob

/-- does this one compiled glob match the path (stripped relative to `root`), only-dir rule included -/
def oneMatch (root : Str) (g : GGlob) (path : Str) (isDir : Bool) : Bool :=
  mtch g.toks (strip root path) && (!g.isOnlyDir || isDir)

/-- the 1.x compatibility candidate `origin//rel` -/
def rebased (origin path : Str) : Str :=
  let based := (splitComps path).drop (splitComps origin).length
  origin ++ ['/', '/'] ++ (String.intercalate "/" (based.map String.ofList)).toList

/-- `Sp.C11.G.id` is an index into this table: `cfgOf` numbers the filters from 0 and the ignores from `filters.length`, and `envOf.mt`
    looks the glob up again -/
def table (g : GF) : List GGlob := g.filters ++ g.ignores

def envOf (g : GF) : Sp.C11.Env where
  mt := fun x p => match (table g)[x.id]? with | some gg => oneMatch g.origin gg p.path p.isDir | none => false
  mtRebased := fun x p => match (table g)[x.id]? with | some gg => oneMatch g.origin gg (rebased g.origin p.path) p.isDir | none => false
  inOrigin := fun p => compPrefix g.origin p.path
  whitelisted := fun p => g.whitelist.any (fun w => splitComps w == splitComps p.path)
  igfPass := fun ps => igfCheck g.igf (ps.map (fun p => ({ path := p.path, isDir := p.isDir } : PTag)))
  ext := fun p => extension p.path

def idsFrom (start : Nat) : List GGlob → List Sp.C11.G
  | [] => []
  | g :: r => ⟨start, g.isWhitelist⟩ :: idsFrom (start + 1) r

def cfgOf (g : GF) : Sp.C11.Cfg where
  filters := idsFrom 0 g.filters
  ignores := idsFrom g.filters.length g.ignores
  exts := g.exts

/-- `GlobsetFilterer::check_event`, as an instance of the abstract decision -/
def checkEventC (g : GF) (paths : List PTag) : Bool :=
  Sp.C11.checkEvent (envOf g) (cfgOf g) (paths.map (fun p => ({ path := p.path, isDir := p.isDir } : Sp.C11.PTag)))

theorem igfPass_map (g : GF) (ps : List PTag) :
    (envOf g).igfPass (ps.map fun p => ⟨p.path, p.isDir⟩) = igfCheck g.igf ps := by
  show igfCheck g.igf (List.map _ (List.map _ ps)) = _
  rw [List.map_map]
  exact congrArg (igfCheck g.igf) (List.map_id'' (fun _ => rfl) ps)

theorem c11_no_paths (g : GF) : checkEventC g [] = true :=
  Sp.C11.no_paths_pass _ _ (igfPass_map g [])

theorem c11_whitelisted (g : GF) (ps : List PTag) (p : PTag) (hp : p ∈ ps)
    (hw : g.whitelist.any (fun w => splitComps w == splitComps p.path) = true) : checkEventC g ps = true :=
  Sp.C11.whitelisted_pass _ _ _ ⟨p.path, p.isDir⟩ (List.mem_map.2 ⟨p, hp, rfl⟩) hw

theorem c11_empty_config (origin : Str) (wl : List Str) (f : Filter) (ps : List PTag)
    (hi : igfCheck f ps = true) :
    checkEventC { origin := origin, filters := [], ignores := [], whitelist := wl, igf := f, exts := [] } ps = true :=
  Sp.C11.empty_passes _ _ ((igfPass_map _ ps).trans hi)

#print axioms c11_empty_config
end Sp.GS
