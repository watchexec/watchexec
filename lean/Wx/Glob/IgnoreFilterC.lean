import Wx.Glob.IgnoreFilter
import Wx.Glob.C03
/-! `match_path` of the string-level filter written with the lookup loop of `Wx/Glob/C03.lean` over keys split into
    components (`go` = the code, `goOld` = before the repair of F12), so that `go_eq_spec` gives its specification. -/
namespace Sp.IF
open Sp.Glob Sp.Pfx Sp.C03

def Filter.keys (f : Filter) : List CPath := f.nodes.map (fun n => splitComps n.key)

/-- "no verdict" is `none` for C03's `ev : Key → Option V` and `Res.none` here; `.getD .none` goes back -/
def resOpt : Res → Option Res
  | .none => none
  | r => some r

/-- the verdict of the first node whose key splits into `k` -/
def Filter.ev (f : Filter) (inOrigin : Bool) (path : Str) (isDir : Bool) (k : CPath) : Option Res :=
  match f.nodes.find? (fun n => splitComps n.key == k) with
  | some n => resOpt (nodeMatch n inOrigin path isDir)
  | none => none

/-- `match_path` through the C03 loop; `fix = false` is the code before the repair of F12 -/
def Filter.matchPathC (fix : Bool) (f : Filter) (path : Str) (isDir : Bool) : Res :=
  let inOrigin := compPrefix f.origin path
  let p := splitComps path
  let r := if fix then go f.keys (f.ev inOrigin path isDir) p (p.length + 1) (body p)
           else goOld f.keys (f.ev inOrigin path isDir) (p.length + 1) (body p)
  r.getD .none

/-- `match_path` of /repo (with the component check, F12) -/
def Filter.matchFix (f : Filter) (path : Str) (isDir : Bool) : Res := f.matchPathC true path isDir

/-- `check_dir` on `matchFix`: true = not ignored -/
def Filter.checkDirFix (f : Filter) (path : Str) : Bool :=
  match f.matchFix path true with
  | .none => true
  | .ignore _ fr => !(compPrefix fr path)
  | .whitelist _ _ => true

/-- the specification of `match_path`: the nodes of the path's component-wise ancestors, nearest first -/
def Filter.specMatchC (f : Filter) (path : Str) (isDir : Bool) : Res :=
  (spec f.keys (f.ev (compPrefix f.origin path) path isDir) (splitComps path)).getD .none

theorem okComp_flush {cur : Str} (hc : ∀ c ∈ cur, c ≠ '/') (hne : ¬ cur.isEmpty = true) : okComp cur.reverse :=
  ⟨by simpa using hne, fun h => hc '/' (List.mem_reverse.1 h) rfl⟩

theorem splitAux_ok : ∀ (s cur : Str), (∀ c ∈ cur, c ≠ '/') → ∀ w ∈ splitAux cur s, okComp w
  | [], cur, hc, w, hw => by
    unfold splitAux at hw
    split at hw
    · cases hw
    · next hne => exact List.mem_singleton.1 hw ▸ okComp_flush hc hne
  | c :: r, cur, hc, w, hw => by
    unfold splitAux at hw
    split at hw
    · split at hw
      · exact splitAux_ok r [] (by simp) w hw
      · next hne =>
        rcases List.mem_cons.1 hw with rfl | hw
        · exact okComp_flush hc hne
        · exact splitAux_ok r [] (by simp) w hw
    · next hns => exact splitAux_ok r (c :: cur) (List.forall_mem_cons.2 ⟨hns, hc⟩) w hw

theorem splitComps_ok (s : Str) : okPath (splitComps s) := fun w hw => splitAux_ok s [] (by simp) w hw

theorem matchPathC_eq_spec (f : Filter) (path : Str) (isDir : Bool) :
    f.matchPathC true path isDir = f.specMatchC path isDir := by
  unfold Filter.matchPathC Filter.specMatchC
  simp only [if_true]
  rw [go_eq_spec]
  · intro k hk
    obtain ⟨n, -, rfl⟩ := List.mem_map.1 hk
    exact splitComps_ok _
  · exact splitComps_ok _

#print axioms matchPathC_eq_spec
end Sp.IF
