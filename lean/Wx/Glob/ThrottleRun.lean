import Wx.Glob.Throttle
/-! C01/C02 across the whole life of the action worker: the loop around `throttle_collect`.
    Each call starts with an empty set; a returned batch goes to the handler; the loop ends when the
    channel closes or (in a finite history) the turns run out. -/
namespace Sp.Th

structure Run where
  batches : List (List Ev × Nat × Nat) := []   -- what the handler was called with: (batch, clock at return, `last` of its window)
  received : List Ev := []                     -- everything taken from the event queue, in order
  errs : List Ev := []                         -- runtime errors sent (one per erroring event)
  filtered : List Ev := []                     -- what the filter was asked about
  tail : List Ev := []                         -- accepted events of the last, unfinished call (still pending, or dropped at close)
  deriving Repr

/-- the worker loop; the `last` a call begins with (`Instant::now()` in the code) is never read: the set is empty until the first
    event, which resets it -/
def worker : Nat → List Turn → Run
  | 0, _ => {}
  | _, [] => {}
  | fuel + 1, t :: ts =>
    let c := collect { set := [], last := 0 } (t :: ts)
    match c.batch with
    | some b =>
      let r := worker fuel c.rest
      { r with batches := b :: r.batches, received := c.received ++ r.received, errs := c.errs ++ r.errs, filtered := c.filtered ++ r.filtered }
    | none => { received := c.received, errs := c.errs, filtered := c.filtered, tail := c.received.filter accepted }

theorem worker_batches (fuel : Nat) (ts : List Turn) :
    ∀ x ∈ (worker fuel ts).batches, ∃ pre ts', ts = pre ++ ts' ∧ (collect { set := [], last := 0 } ts').batch = some x := by
  fun_induction worker fuel ts with
  | case1 | case2 | case4 => nofun
  | case3 fuel t ts c b hb r ih =>
    intro x hx
    rcases List.mem_cons.mp hx with rfl | hx
    · exact ⟨[], t :: ts, rfl, hb⟩
    · obtain ⟨pre', ts', hs, hc⟩ := ih x hx
      obtain ⟨pre, t', -, e, -⟩ := collect_returning_turn hb
      exact ⟨pre ++ t' :: pre', ts', e.trans (by rw [hs, List.append_assoc]; rfl), hc⟩

theorem worker_conserve : ∀ (fuel : Nat) (ts : List Turn),
    ((worker fuel ts).batches.map (·.1)).flatten ++ (worker fuel ts).tail = (worker fuel ts).received.filter accepted := by
  intro fuel ts
  fun_induction worker fuel ts with
  | case1 | case2 => rfl
  | case3 fuel t ts c b hb r ih =>
    show b.1 ++ (r.batches.map (·.1)).flatten ++ r.tail = (c.received ++ r.received).filter accepted
    rw [List.append_assoc, ih, List.filter_append, (collect_conserve _ _ b.1 b.2.1 b.2.2 hb).1]
    rfl
  | case4 => exact List.nil_append _

theorem worker_nonempty : ∀ (fuel : Nat) (ts : List Turn), ∀ b ∈ (worker fuel ts).batches, b.1 ≠ [] := by
  intro fuel ts b hb
  obtain ⟨-, ts', -, hc⟩ := worker_batches fuel ts b hb
  exact (collect_conserve _ ts' b.1 b.2.1 b.2.2 hc).2

theorem worker_only_accepted (fuel : Nat) (ts : List Turn) :
    ∀ b ∈ (worker fuel ts).batches, ∀ e ∈ b.1, accepted e = true := by
  intro b hb e he
  obtain ⟨-, ts', -, hc⟩ := worker_batches fuel ts b hb
  rw [(collect_conserve _ ts' b.1 b.2.1 b.2.2 hc).1] at he
  exact (List.mem_filter.mp he).2

/-- a non-vacuity check: two events in one window, then a third after it -/
example :
    let ev (i : Nat) (v : Verdict) : Ev := { id := i, prio := .normal, empty := false, verdict := v }
    let tn (top : Nat) (r : Recv) (t : Nat) : Turn := { throttle1 := 50, clock1 := top, recv := r, closedAfter := false, clock2 := t, clock3 := t, throttle2 := 50 }
    ((worker 10 [tn 0 (.got (ev 1 .pass)) 10, tn 10 (.got (ev 2 .reject)) 20, tn 20 (.got (ev 3 .pass)) 30, tn 30 .timeout 60, tn 60 .timeout 60,
                 tn 60 (.got (ev 4 .pass)) 100]).batches.map (fun b => b.1.map (·.id))) = [[1, 3]] := by decide

#print axioms worker_conserve

theorem collect_window {s : TS} {ts : List Turn} {b at_ l} (h : (collect s ts).batch = some (b, at_, l)) :
    (s.set ≠ [] → l = s.last) ∧ (s.set = [] → ∃ t ∈ ts, ∃ e, t.recv = .got e ∧ l = t.clock2 ∧ b.head? = some e) := by
  fun_induction collect s ts with
  | case1 => cases h
  | case2 s t ts st s' hn c ih =>
    obtain ⟨i2, i3⟩ := ih h
    obtain ⟨hset, hlast, hfirst⟩ := turn_next hn
    refine ⟨fun hne => ?_, fun hs => ?_⟩
    · rw [i2 (by rw [hset]; simp [hne]), hlast hne]
    · by_cases hne : s'.set = []
      · obtain ⟨t', ht', r⟩ := i3 hne
        exact ⟨t', List.mem_cons_of_mem _ ht', r⟩
      · -- the window opens in this turn, with the event that heads the batch
        obtain ⟨e, h1, h2, h3⟩ := hfirst hs hne
        refine ⟨t, List.mem_cons_self, e, h1, by rw [i2 hne, h3], ?_⟩
        rw [(collect_conserve s' ts b at_ l h).1, h2]; rfl
  | case3 s t ts st hn =>
    obtain ⟨-, hb2, hb3⟩ := turn_batch_bound h
    refine ⟨hb2, fun hs => ?_⟩
    obtain ⟨e, h1, h2, h3⟩ := hb3 hs
    exact ⟨t, List.mem_cons_self, e, h1, h3, by rw [h2]; rfl⟩

/-- **C02 for one call of `throttle_collect`** (any starting state): a returned batch without urgent events left in a
    turn whose throttle reading had elapsed since `l`; `l` is the start of the window that was open when the call
    began, or — if none was — the `clock2` reading taken right after the batch's first event was received -/
theorem collect_bound : ∀ (ts : List Turn) (s : TS) (b at_ l), (collect s ts).batch = some (b, at_, l) →
    (∀ e ∈ b, e.prio ≠ .urgent) →
    (∃ t ∈ ts, t.throttle1 ≤ at_ - l ∨ t.throttle2 ≤ at_ - l) ∧ (s.set ≠ [] → l = s.last) ∧
    (s.set = [] → ∃ t ∈ ts, ∃ e, t.recv = .got e ∧ l = t.clock2 ∧ b.head? = some e) := by
  intro ts s b at_ l h hnu
  obtain ⟨pre, t, s', e, hb, -⟩ := collect_returning_turn h
  exact ⟨⟨t, e ▸ List.mem_append_right pre List.mem_cons_self, (turn_batch_bound hb).1 hnu⟩, collect_window h⟩

theorem worker_bound : ∀ (fuel : Nat) (ts : List Turn), ∀ x ∈ (worker fuel ts).batches, (∀ e ∈ x.1, e.prio ≠ .urgent) →
    (∃ t ∈ ts, t.throttle1 ≤ x.2.1 - x.2.2 ∨ t.throttle2 ≤ x.2.1 - x.2.2) ∧
    (∃ t ∈ ts, ∃ e, t.recv = .got e ∧ x.2.2 = t.clock2 ∧ x.1.head? = some e) := by
  intro fuel ts x hx hnu
  obtain ⟨pre, ts', rfl, hc⟩ := worker_batches fuel ts x hx
  obtain ⟨⟨t1, ht1, h1⟩, -, h3⟩ := collect_bound ts' _ x.1 x.2.1 x.2.2 hc hnu
  obtain ⟨t2, ht2, h2⟩ := h3 rfl
  exact ⟨⟨t1, List.mem_append_right pre ht1, h1⟩, t2, List.mem_append_right pre ht2, h2⟩

#print axioms worker_bound

theorem turn_urgent (s : TS) (t : Turn) (e : Ev) (hr : t.recv = .got e) (hu : e.prio = .urgent)
    (hw : windowOver s t = false) (hc : t.closedAfter = false) :
    (turn s t).batch = some (s.set ++ [e], t.clock2, newLast s t) ∧ (turn s t).filtered = [] ∧ (turn s t).next = none := by
  rw [turn, classify_gotUrgent hw hr hc hu]
  simp [apply, bypass, hu]

theorem turn_window_over (s : TS) (t : Turn) (hne : s.set ≠ []) (hd : t.throttle1 ≤ t.clock1 - s.last) :
    (turn s t).batch = some (s.set, t.clock1, s.last) ∧ (turn s t).received = [] := by
  rw [turn, classify_windowOver hne hd]
  exact ⟨rfl, rfl⟩

theorem turn_rejected (s : TS) (t : Turn) (e : Ev) (hr : t.recv = .got e) (hb : bypass e = false) (hv : e.verdict ≠ .pass)
    (hw : windowOver s t = false) (hc : t.closedAfter = false) :
    (turn s t).next = some s ∧ (turn s t).batch = none ∧ (turn s t).errs = (if e.verdict = .err then [e] else []) := by
  cases hv' : e.verdict with
  | pass => exact absurd hv' hv
  | err => rw [turn, classify_gotErr hw hr hc hb hv']; simp [apply]
  | reject => rw [turn, classify_gotReject hw hr hc hb hv']; simp [apply]

end Sp.Th
