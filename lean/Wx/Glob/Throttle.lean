/-! `throttle_collect`, turn by turn, and the C01/C02 statements. -/
namespace Sp.Th

inductive Prio | low | normal | high | urgent deriving DecidableEq, Repr
inductive Verdict | pass | reject | err deriving DecidableEq, Repr

structure Ev where
  id : Nat
  prio : Prio
  empty : Bool
  verdict : Verdict
  deriving DecidableEq, Repr

inductive Recv | timeout | closed | got (e : Ev) deriving Repr

/-- external inputs of one loop turn, in the order the code reads them -/
structure Turn where
  throttle1 : Nat      -- config.throttle.get() at the top (only read when set ≠ [])
  clock1 : Nat         -- last.elapsed() at the top
  recv : Recv          -- outcome of timeout(maxtime, events.recv())
  closedAfter : Bool   -- events.is_closed() after the await
  clock2 : Nat         -- Instant::now() when the first event resets the window
  clock3 : Nat         -- last.elapsed() after push
  throttle2 : Nat      -- config.throttle.get() after push
  deriving Repr

structure TS where
  set : List Ev := []
  last : Nat := 0
  deriving Repr

def accepted (e : Ev) : Bool := e.prio == .urgent || e.empty || e.verdict == .pass

/-- what one turn did -/
structure Step where
  next : Option TS          -- some = loop again
  batch : Option (List Ev × Nat × Nat) := none   -- returned batch, clock at return, `last` of its window
  received : List Ev := []
  errs : List Ev := []
  filtered : List Ev := []  -- events handed to the filter
  lost : List Ev := []      -- dropped at close
  deriving Repr

def windowOver (s : TS) (t : Turn) : Bool := !s.set.isEmpty && t.throttle1 ≤ t.clock1 - s.last
def bypass (e : Ev) : Bool := e.prio == .urgent || e.empty
def newLast (s : TS) (t : Turn) : Nat := if s.set.isEmpty then t.clock2 else s.last

/-- which path through the loop body this turn takes -/
inductive Kind
  | windowOver | closed | timeoutClosed | timeoutCont
  | gotClosed (e : Ev) | gotErr (e : Ev) | gotReject (e : Ev)
  | gotUrgent (e : Ev) | gotWithin (e : Ev) | gotExpired (e : Ev)
  deriving Repr, DecidableEq

def classify (s : TS) (t : Turn) : Kind :=
  if windowOver s t then .windowOver else
  match t.recv with
  | .closed => .closed
  | .timeout => if t.closedAfter then .timeoutClosed else .timeoutCont
  | .got e =>
    if t.closedAfter then .gotClosed e
    else if !bypass e && e.verdict == .err then .gotErr e
    else if !bypass e && e.verdict == .reject then .gotReject e
    else if e.prio == .urgent then .gotUrgent e
    else if t.clock3 - newLast s t < t.throttle2 then .gotWithin e
    else .gotExpired e

def apply (s : TS) (t : Turn) : Kind → Step
  | .windowOver => { next := none, batch := some (s.set, t.clock1, s.last) }
  | .closed | .timeoutClosed => { next := none, lost := s.set }
  | .timeoutCont => { next := some s }
  | .gotClosed e => { next := none, received := [e], lost := s.set ++ [e] }
  | .gotErr e => { next := some s, received := [e], errs := [e], filtered := [e] }
  | .gotReject e => { next := some s, received := [e], filtered := [e] }
  | .gotUrgent e => { next := none, batch := some (s.set ++ [e], t.clock2, newLast s t), received := [e],
                      filtered := if bypass e then [] else [e] }
  | .gotWithin e => { next := some ⟨s.set ++ [e], newLast s t⟩, received := [e], filtered := if bypass e then [] else [e] }
  | .gotExpired e => { next := none, batch := some (s.set ++ [e], t.clock3, newLast s t), received := [e],
                       filtered := if bypass e then [] else [e] }

/-- one iteration of the `loop` in throttle_collect -/
def turn (s : TS) (t : Turn) : Step := apply s t (classify s t)

theorem accepted_eq (e : Ev) : accepted e = (bypass e || e.verdict == .pass) := rfl

theorem accepted_iff (e : Ev) : accepted e = true ↔ (bypass e = true ∨ e.verdict = .pass) := by
  rw [accepted_eq, Bool.or_eq_true, beq_iff_eq]

/-- what is the case when a turn takes the path `k`: the outcomes of the tests of `classify` that lead there -/
def KindSpec (s : TS) (t : Turn) : Kind → Prop
  | .windowOver => s.set ≠ [] ∧ t.throttle1 ≤ t.clock1 - s.last
  | .gotErr e => accepted e = false ∧ e.verdict = .err ∧ bypass e = false
  | .gotReject e => accepted e = false ∧ e.verdict = .reject ∧ bypass e = false
  | .gotUrgent e => accepted e = true ∧ e.prio = .urgent ∧ bypass e = true
  | .gotWithin e => accepted e = true ∧ e.prio ≠ .urgent ∧ t.clock3 - newLast s t < t.throttle2
                      ∧ (bypass e = false → e.verdict = .pass)
  | .gotExpired e => accepted e = true ∧ e.prio ≠ .urgent ∧ t.throttle2 ≤ t.clock3 - newLast s t
                      ∧ (bypass e = false → e.verdict = .pass)
  | _ => True

theorem not_accepted {e : Ev} {v : Verdict} (h : (!bypass e && e.verdict == v) = true) (hv : v ≠ .pass) :
    accepted e = false ∧ e.verdict = v ∧ bypass e = false := by
  obtain ⟨hb, rfl⟩ : bypass e = false ∧ e.verdict = v := by simpa using h
  exact ⟨by rw [accepted_eq, hb]; simpa using hv, rfl, hb⟩

theorem passed {e : Ev} (h1 : ¬(!bypass e && e.verdict == .err) = true) (h2 : ¬(!bypass e && e.verdict == .reject) = true) :
    accepted e = true ∧ (bypass e = false → e.verdict = .pass) := by
  rw [accepted_eq]
  revert h1 h2
  cases bypass e <;> cases e.verdict <;> decide

/- Down the decision tree of `classify`, one test at a time: `split` on the whole tree is slow to check. -/
theorem classify_spec (s : TS) (t : Turn) : KindSpec s t (classify s t) := by
  unfold classify
  by_cases hw : windowOver s t = true
  · rw [if_pos hw]
    exact (by simpa [windowOver] using hw : s.set ≠ [] ∧ _)
  rw [if_neg hw]
  cases t.recv with
  | closed => trivial
  | timeout => by_cases hc : t.closedAfter = true <;> simp only [hc, if_true, Bool.false_eq_true, if_false] <;> trivial
  | got e =>
    dsimp only
    by_cases hc : t.closedAfter = true
    · rw [if_pos hc]; trivial
    rw [if_neg hc]
    by_cases h1 : (!bypass e && e.verdict == .err) = true
    · rw [if_pos h1]; exact not_accepted h1 nofun
    rw [if_neg h1]
    by_cases h2 : (!bypass e && e.verdict == .reject) = true
    · rw [if_pos h2]; exact not_accepted h2 nofun
    rw [if_neg h2]
    obtain ⟨ha, hp⟩ := passed h1 h2
    by_cases hu : (e.prio == .urgent) = true
    · rw [if_pos hu]
      have hu : e.prio = .urgent := by simpa using hu
      exact ⟨ha, hu, by simp [bypass, hu]⟩
    rw [if_neg hu]
    have hu : e.prio ≠ .urgent := by simpa using hu
    by_cases hlt : t.clock3 - newLast s t < t.throttle2
    · rw [if_pos hlt]; exact ⟨ha, hu, hlt, hp⟩
    · rw [if_neg hlt]; exact ⟨ha, hu, Nat.le_of_not_lt hlt, hp⟩

theorem classify_windowOver {s : TS} {t : Turn} (hne : s.set ≠ []) (hd : t.throttle1 ≤ t.clock1 - s.last) :
    classify s t = .windowOver :=
  if_pos (by simp [windowOver, hne, hd])

section
variable {s : TS} {t : Turn} {e : Ev} (hw : windowOver s t = false) (hr : t.recv = .got e) (hc : t.closedAfter = false)
include hw hr hc

theorem classify_gotUrgent (hu : e.prio = .urgent) : classify s t = .gotUrgent e := by
  simp [classify, hw, hr, hc, bypass, hu]

theorem classify_gotErr (hb : bypass e = false) (hv : e.verdict = .err) : classify s t = .gotErr e := by
  simp [classify, hw, hr, hc, hb, hv]

theorem classify_gotReject (hb : bypass e = false) (hv : e.verdict = .reject) : classify s t = .gotReject e := by
  simp [classify, hw, hr, hc, hb, hv]

end

def Kind.ev? : Kind → Option Ev
  | .gotClosed e | .gotErr e | .gotReject e | .gotUrgent e | .gotWithin e | .gotExpired e => some e
  | _ => none

theorem classify_recv (s : TS) (t : Turn) (e : Ev) (h : (classify s t).ev? = some e) : t.recv = .got e := by
  unfold classify at h
  by_cases hw : windowOver s t = true
  · rw [if_pos hw] at h; cases h
  rw [if_neg hw] at h
  cases hr : t.recv with
  | closed => rw [hr] at h; cases h
  | timeout => rw [hr] at h; dsimp only at h; split at h <;> cases h
  | got e' =>
    rw [hr] at h
    -- every leaf of the tree below `got e'` carries `e'`
    simp only [apply_ite Kind.ev?] at h
    simp only [Kind.ev?, ite_self, Option.some.injEq] at h
    rw [h]

structure Call where
  batch : Option (List Ev × Nat × Nat) := none
  received : List Ev := []
  errs : List Ev := []
  filtered : List Ev := []
  lost : List Ev := []
  rest : List Turn := []
  deriving Repr

def collect : TS → List Turn → Call
  | _, [] => {}
  | s, t :: ts =>
    let st := turn s t
    match st.next with
    | some s' =>
      let c := collect s' ts
      { c with received := st.received ++ c.received, errs := st.errs ++ c.errs, filtered := st.filtered ++ c.filtered }
    | none => { batch := st.batch, received := st.received, errs := st.errs, filtered := st.filtered, lost := st.lost, rest := ts }

theorem turn_cases (s : TS) (t : Turn) :
    ∃ k, turn s t = apply s t k ∧ KindSpec s t k ∧ ∀ e, k.ev? = some e → t.recv = .got e :=
  ⟨_, rfl, classify_spec s t, classify_recv s t⟩

theorem newLast_of_ne {s : TS} (t : Turn) (h : s.set ≠ []) : newLast s t = s.last := by simp [newLast, h]

theorem newLast_of_nil {s : TS} (t : Turn) (h : s.set = []) : newLast s t = t.clock2 := by simp [newLast, h]

theorem turn_next {s s' : TS} {t : Turn} (h : (turn s t).next = some s') :
    s'.set = s.set ++ (turn s t).received.filter accepted ∧ (s.set ≠ [] → s'.last = s.last) ∧
    (s.set = [] → s'.set ≠ [] → ∃ e, t.recv = .got e ∧ s'.set = [e] ∧ s'.last = t.clock2) := by
  obtain ⟨k, hk, sp, hr⟩ := turn_cases s t
  rw [hk] at h ⊢
  cases k with
  | timeoutCont => cases h; exact ⟨by simp [apply], fun _ => rfl, fun h0 h1 => absurd h0 h1⟩
  | gotErr e | gotReject e =>
    cases h; exact ⟨by simp [apply, sp.1], fun _ => rfl, fun h0 h1 => absurd h0 h1⟩
  | gotWithin e =>
    cases h
    exact ⟨by simp [apply, sp.1], newLast_of_ne t, fun h0 _ => ⟨e, hr e rfl, by rw [h0]; rfl, newLast_of_nil t h0⟩⟩
  | _ => cases h

theorem turn_next_set (s : TS) (t : Turn) (s' : TS) (h : (turn s t).next = some s') :
    s'.set = s.set ++ (turn s t).received.filter accepted ∧ (s.set ≠ [] → s'.last = s.last) :=
  ⟨(turn_next h).1, (turn_next h).2.1⟩

theorem turn_batch (s : TS) (t : Turn) (b at_ l) (h : (turn s t).batch = some (b, at_, l)) :
    b = s.set ++ (turn s t).received.filter accepted ∧ b ≠ [] ∧ (turn s t).next = none := by
  obtain ⟨k, hk, sp, -⟩ := turn_cases s t
  rw [hk] at h ⊢
  cases k with
  | windowOver => cases h; exact ⟨by simp [apply], sp.1, rfl⟩
  | gotUrgent e | gotExpired e => cases h; exact ⟨by simp [apply, sp.1], by simp, rfl⟩
  | _ => cases h

theorem turn_batch_bound {s : TS} {t : Turn} {b at_ l} (h : (turn s t).batch = some (b, at_, l)) :
    ((∀ e ∈ b, e.prio ≠ .urgent) → t.throttle1 ≤ at_ - l ∨ t.throttle2 ≤ at_ - l) ∧ (s.set ≠ [] → l = s.last) ∧
    (s.set = [] → ∃ e, t.recv = .got e ∧ b = [e] ∧ l = t.clock2) := by
  obtain ⟨k, hk, sp, hr⟩ := turn_cases s t
  rw [hk] at h
  cases k with
  | windowOver => cases h; exact ⟨fun _ => .inl sp.2, fun _ => rfl, fun h0 => absurd h0 sp.1⟩
  | gotUrgent e =>
    cases h
    exact ⟨fun hnu => absurd sp.2.1 (hnu e (by simp)), newLast_of_ne t, fun h0 => ⟨e, hr e rfl, by rw [h0]; rfl, newLast_of_nil t h0⟩⟩
  | gotExpired e =>
    cases h
    exact ⟨fun _ => .inr sp.2.2.1, newLast_of_ne t, fun h0 => ⟨e, hr e rfl, by rw [h0]; rfl, newLast_of_nil t h0⟩⟩
  | _ => cases h

theorem turn_lower_bound (s : TS) (t : Turn) (b at_ l) (h : (turn s t).batch = some (b, at_, l))
    (hnu : ∀ e ∈ b, e.prio ≠ .urgent) :
    (t.throttle1 ≤ at_ - l ∨ t.throttle2 ≤ at_ - l) ∧ (s.set ≠ [] → l = s.last) :=
  ⟨(turn_batch_bound h).1 hnu, (turn_batch_bound h).2.1⟩

theorem collect_conserve (s : TS) (ts : List Turn) (b at_ l)
    (h : (collect s ts).batch = some (b, at_, l)) :
    b = s.set ++ (collect s ts).received.filter accepted ∧ b ≠ [] := by
  fun_induction collect s ts with
  | case1 => cases h
  | case2 s t ts st s' hn c ih =>
    obtain ⟨h1, h2⟩ := ih h
    refine ⟨?_, h2⟩
    show b = s.set ++ (st.received ++ c.received).filter accepted
    rw [h1, (turn_next_set s t s' hn).1, List.filter_append, List.append_assoc]
  | case3 s t ts st hn => exact ⟨(turn_batch s t b at_ l h).1, (turn_batch s t b at_ l h).2.1⟩

theorem collect_returning_turn {s : TS} {ts : List Turn} {x} (h : (collect s ts).batch = some x) :
    ∃ pre t s', ts = pre ++ t :: (collect s ts).rest ∧ (turn s' t).batch = some x ∧ (turn s' t).next = none := by
  fun_induction collect s ts with
  | case1 => cases h
  | case2 s t ts st s' hn c ih =>
    obtain ⟨pre, t', s'', e, hb, hnx⟩ := ih h
    exact ⟨t :: pre, t', s'', by rw [e]; rfl, hb, hnx⟩
  | case3 s t ts st hn => exact ⟨[], t, s, rfl, h, hn⟩

theorem turn_filtered (s : TS) (t : Turn) :
    (∀ e ∈ (turn s t).filtered, bypass e = false) ∧ (∀ e ∈ (turn s t).errs, e.verdict = .err ∧ accepted e = false) := by
  obtain ⟨k, hk, sp, -⟩ := turn_cases s t
  rw [hk]
  cases k with
  | gotErr e => simp [apply, sp.1, sp.2.1, sp.2.2]
  | gotReject e => simp [apply, sp.2.2]
  | gotUrgent e | gotWithin e | gotExpired e => simp [apply, List.mem_ite_nil_left]
  | _ => simp [apply]

#print axioms collect_conserve
#print axioms turn_lower_bound
end Sp.Th
