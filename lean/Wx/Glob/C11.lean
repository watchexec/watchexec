/-! C11: the globset filterer's decision, parametric in the glob matcher and the ignore-file layer. -/
namespace Sp.C11

inductive V | none | ignore | whitelist deriving DecidableEq, Repr

structure G where
  id : Nat          -- stands for the compiled glob
  neg : Bool        -- `!pattern`
  deriving DecidableEq, Repr

structure PTag where
  path : List Char
  isDir : Bool
  deriving DecidableEq, Repr

/-- everything the decision reads besides the pattern lists -/
structure Env where
  mt : G → PTag → Bool                 -- glob (incl. its only-dir rule) matches the stripped path
  mtRebased : G → PTag → Bool          -- the 1.x `origin//rel` re-match
  inOrigin : PTag → Bool
  whitelisted : PTag → Bool            -- names an explicitly watched file
  igfPass : List PTag → Bool           -- ignore-files layer (C03 model)
  ext : PTag → Option (List Char)      -- Path::extension

/-- `Gitignore::matched`: the last matching glob decides -/
def verdict (mt : G → PTag → Bool) : List G → PTag → V
  | [], _ => .none
  | g :: r, p =>
    match verdict mt r p with
    | .none => if mt g p then (if g.neg then .whitelist else .ignore) else .none
    | v => v

structure Cfg where
  filters : List G
  ignores : List G
  exts : List (List Char)

def numFilters (c : Cfg) : Nat := (c.filters.filter (!·.neg)).length

/-- what a non-ignored path needs -/
def wanted (e : Env) (c : Cfg) (p : PTag) : Bool :=
  let viaFilter := numFilters c > 0 &&
    (verdict e.mt c.filters p == .ignore || (e.inOrigin p && verdict e.mtRebased c.filters p == .ignore))
  if viaFilter then true else
  let filtered := numFilters c > 0 || !c.exts.isEmpty
  if !c.exts.isEmpty then
    if p.isDir then false else
    match e.ext p with
    | some x => if c.exts.contains x then true else !filtered
    | none => false
  else !filtered

def checkEvent (e : Env) (c : Cfg) (paths : List PTag) : Bool :=
  if paths.any e.whitelisted then true else
  if !e.igfPass paths then false else
  if paths.isEmpty then true else
  paths.any (fun p => if verdict e.mt c.ignores p == .ignore then false else wanted e c p)

theorem checkEvent_eq (e : Env) (c : Cfg) (ps : List PTag) :
    checkEvent e c ps =
      (ps.any e.whitelisted || (e.igfPass ps && (ps.isEmpty || ps.any fun p => verdict e.mt c.ignores p != .ignore && wanted e c p))) := by
  have : ∀ p, (if verdict e.mt c.ignores p == .ignore then false else wanted e c p) = (verdict e.mt c.ignores p != .ignore && wanted e c p) := by
    intro p; cases h : verdict e.mt c.ignores p == .ignore <;> simp [bne, h]
  unfold checkEvent
  simp only [this]
  cases ps.any e.whitelisted <;> cases e.igfPass ps <;> cases ps.isEmpty <;> rfl

theorem checkEvent_iff (e : Env) (c : Cfg) (ps : List PTag) :
    checkEvent e c ps = true ↔
      (∃ p ∈ ps, e.whitelisted p = true) ∨
      (e.igfPass ps = true ∧ (ps = [] ∨ ∃ p ∈ ps, verdict e.mt c.ignores p ≠ .ignore ∧ wanted e c p = true)) := by
  simp [checkEvent_eq]

theorem no_paths_pass (e : Env) (c : Cfg) (h : e.igfPass [] = true) : checkEvent e c [] = true :=
  (checkEvent_iff e c []).2 (Or.inr ⟨h, Or.inl rfl⟩)

theorem whitelisted_pass (e : Env) (c : Cfg) (ps : List PTag) (p : PTag) (hp : p ∈ ps) (hw : e.whitelisted p = true) :
    checkEvent e c ps = true :=
  (checkEvent_iff e c ps).2 (Or.inl ⟨p, hp, hw⟩)

theorem igf_rejects (e : Env) (c : Cfg) (ps : List PTag) (hw : ps.any e.whitelisted = false) (hi : e.igfPass ps = false) :
    checkEvent e c ps = false := by
  simp [checkEvent_eq, hw, hi]

theorem check_iff (e : Env) (c : Cfg) (ps : List PTag) (hw : ps.any e.whitelisted = false) (hi : e.igfPass ps = true)
    (hne : ps ≠ []) :
    checkEvent e c ps = true ↔ ∃ p ∈ ps, verdict e.mt c.ignores p ≠ .ignore ∧ wanted e c p = true := by
  simp [checkEvent_eq, hw, hi, hne]

theorem wanted_empty (e : Env) (c : Cfg) (p : PTag) (hf : numFilters c = 0) (hx : c.exts = []) : wanted e c p = true := by
  simp [wanted, hf, hx]

theorem wanted_iff (e : Env) (c : Cfg) (p : PTag) (h : numFilters c > 0 ∨ c.exts ≠ []) :
    wanted e c p = true ↔
      (numFilters c > 0 ∧ (verdict e.mt c.filters p = .ignore ∨ (e.inOrigin p = true ∧ verdict e.mtRebased c.filters p = .ignore))) ∨
      (p.isDir = false ∧ ∃ x, e.ext p = some x ∧ x ∈ c.exts) := by
  have hfil : (decide (numFilters c > 0) || !c.exts.isEmpty) = true := by
    rcases h with h | h <;> simp [h]
  unfold wanted
  simp only [hfil, Bool.not_true]
  cases hv : decide (numFilters c > 0) &&
      (verdict e.mt c.filters p == .ignore || e.inOrigin p && verdict e.mtRebased c.filters p == .ignore)
  · have hA : ¬ (numFilters c > 0 ∧ (verdict e.mt c.filters p = .ignore ∨ (e.inOrigin p = true ∧ verdict e.mtRebased c.filters p = .ignore))) := by
      simpa using hv
    simp only [Bool.false_eq_true, if_false, hA, false_or]
    cases e.ext p with
    | none => simp
    | some x =>
      -- the outer test `!c.exts.isEmpty` says nothing more than membership does
      simpa using fun _ => List.ne_nil_of_mem
  · exact iff_of_true rfl (Or.inl (by simpa using hv))

theorem ignore_precedence (e : Env) (c : Cfg) (ps : List PTag) (hw : ps.any e.whitelisted = false)
    (hall : ∀ p ∈ ps, verdict e.mt c.ignores p = .ignore) (hne : ps ≠ []) : checkEvent e c ps = false := by
  cases hi : e.igfPass ps
  · exact igf_rejects e c ps hw hi
  · refine Bool.eq_false_iff.2 fun h => ?_
    obtain ⟨p, hp, hv, _⟩ := (check_iff e c ps hw hi hne).1 h
    exact hv (hall p hp)

theorem verdict_append (mt : G → PTag → Bool) (a b : List G) (p : PTag) :
    verdict mt (a ++ b) p = match verdict mt b p with | .none => verdict mt a p | v => v := by
  induction a with
  | nil => simp [verdict]; cases verdict mt b p <;> rfl
  | cons g a ih =>
    simp only [List.cons_append, verdict, ih]
    cases verdict mt b p <;> simp

theorem verdict_insert (mt : G → PTag → Bool) (a b : List G) (g : G) (hg : g.neg = false) (p : PTag) :
    verdict mt (a ++ g :: b) p = verdict mt (a ++ b) p ∨ verdict mt (a ++ g :: b) p = .ignore := by
  rw [verdict_append, verdict_append]
  simp only [verdict]
  cases hb : verdict mt b p
  · by_cases hm : mt g p = true
    · right; simp [hm, hg]
    · left; simp [hm]
  · left; simp
  · left; simp

theorem ignore_monotone (e : Env) (c : Cfg) (a b : List G) (g : G) (hg : g.neg = false) (hc : c.ignores = a ++ b)
    (ps : List PTag) (h : checkEvent e { c with ignores := a ++ g :: b } ps = true) : checkEvent e c ps = true := by
  rw [checkEvent_iff] at h ⊢
  refine h.imp_right (And.imp_right (Or.imp_right ?_))
  rintro ⟨p, hp, hv, hwant⟩
  refine ⟨p, hp, ?_, hwant⟩
  rw [hc]
  rcases verdict_insert e.mt a b g hg p with h1 | h1
  · exact h1 ▸ hv
  · exact absurd h1 hv

theorem empty_passes (e : Env) (ps : List PTag) (hi : e.igfPass ps = true) : checkEvent e ⟨[], [], []⟩ ps = true := by
  refine (checkEvent_iff e _ ps).2 (Or.inr ⟨hi, ?_⟩)
  cases ps with
  | nil => exact Or.inl rfl
  | cons p r => exact Or.inr ⟨p, List.mem_cons_self, by simp [verdict], wanted_empty e _ p rfl rfl⟩

end Sp.C11
