import Wx.Glob.GlobPath2
/-! Directory-only lines (`name/`): the same walk, but the path itself counts only when it is a directory; every directory above it
    counts (a parent is a directory). An instance of `lastCompDir_ignores_iff`. -/
namespace Sp.Glob

/-- the glob of the line `name/` -/
def dirGlob (orig n : List Char) : GGlob := ⟨orig, .recPrefix :: lits n, false, true⟩

/-- but for its directories-only flag `dirGlob orig n` is `nameGlob orig n` -/
theorem dirGlob_lastCompDir (orig n : List Char) (hn : Clean n) : LastCompDir (dirGlob orig n) (fun c => c = n) :=
  show LastComp (nameGlob orig n) _ from nameGlob_lastComp orig n hn

theorem dir_line_ignores_iff (n orig root path : List Char) (hn : Clean n) (cs : List (List Char)) (hne : cs ≠ []) (hcs : ∀ x ∈ cs, Comp x)
    (hstrip : strip root path = join cs) (isDir : Bool) :
    matchedOrParents root [dirGlob orig n] path isDir ≠ .none ↔ (isDir = true ∧ ∃ h : cs ≠ [], cs.getLast h = n) ∨ ∃ c ∈ cs.dropLast, c = n := by
  rw [lastCompDir_ignores_iff (dirGlob_lastCompDir orig n hn) hcs hstrip]
  simp [dirGlob, hne, List.getLast?_eq_some_getLast hne, and_comm]

theorem addLine_is_dirGlob (n : List Char) (hn : Clean n) : addLine (n ++ ['/']) = some (some (dirGlob (n ++ ['/']) n)) :=
  addLine_name false true n hn  -- the flags' `if`s evaluate, and `[] ++ n` is `n`

#print axioms dir_line_ignores_iff
end Sp.Glob
