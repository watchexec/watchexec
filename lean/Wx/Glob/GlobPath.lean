import Wx.Glob.GlobThm
/-! From globs to paths: what `matched_path_or_any_parents` makes of a slash-free ignore line. A relative path is a list of
    components; its string is the components joined by `/`. A glob whose verdict depends on the LAST component only (what every
    slash-free gitignore line compiles to: `name`, `name/`, `*.ext`) ignores exactly the paths that HAVE a component it accepts —
    the path itself or any directory above it inside the ignore file's directory. -/
namespace Sp.Glob

def Comp (c : List Char) : Prop := c ≠ [] ∧ ∀ x ∈ c, x ≠ '/'

def join : List (List Char) → List Char
  | [] => []
  | [c] => c
  | c :: d :: r => c ++ '/' :: join (d :: r)

theorem join_snoc (cs : List (List Char)) (c : List Char) (hne : cs ≠ []) : join (cs ++ [c]) = join cs ++ '/' :: c := by
  induction cs with
  | nil => exact absurd rfl hne
  | cons a cs ih =>
    cases cs with
    | nil => rfl
    | cons b cs => simpa [join] using ih (by simp)

theorem join_ne_nil {cs : List (List Char)} (hne : cs ≠ []) (hc : ∀ c ∈ cs, Comp c) : join cs ≠ [] := by
  cases cs with
  | nil => exact absurd rfl hne
  | cons a cs =>
    have ha := (hc a List.mem_cons_self).1
    cases cs <;> simp [join, ha]

theorem length_le_join {cs : List (List Char)} (hc : ∀ c ∈ cs, Comp c) : cs.length ≤ (join cs).length := by
  induction cs with
  | nil => simp
  | cons a cs ih =>
    have ha : 1 ≤ a.length := List.length_pos_iff.2 (hc a List.mem_cons_self).1
    have := ih (fun x hx => hc x (List.mem_cons_of_mem _ hx))
    cases cs with
    | nil => simpa [join] using ha
    | cons b cs => simp only [join, List.length_cons, List.length_append] at this ⊢; omega

theorem join_getLast : ∀ {cs : List (List Char)}, cs ≠ [] → (∀ c ∈ cs, Comp c) → ∃ a, (join cs).getLast? = some a ∧ a ≠ '/'
  | [], h, _ => absurd rfl h
  | [a], _, hc =>
    have ha := hc a List.mem_cons_self
    ⟨a.getLast ha.1, List.getLast?_eq_some_getLast ha.1, ha.2 _ (List.getLast_mem ha.1)⟩
  | a :: b :: r, _, hc => by
    obtain ⟨x, hx, hne⟩ := join_getLast (cs := b :: r) (by simp) (fun c h => hc c (List.mem_cons_of_mem _ h))
    exact ⟨x, by simp [join, List.getLast?_append, List.getLast?_cons, hx], hne⟩

theorem dropWhile_reverse_noSlash {c : List Char} (hc : ∀ x ∈ c, x ≠ '/') (l : List Char) :
    (c.reverse ++ l).dropWhile (· != '/') = l.dropWhile (· != '/') :=
  List.dropWhile_append_of_pos fun x hx => by simpa using hc x (List.mem_reverse.1 hx)

theorem parentOf_append (q c : List Char) (hq : ∃ a, q.getLast? = some a ∧ a ≠ '/') (hc : Comp c) :
    parentOf (q ++ '/' :: c) = some q := by
  obtain ⟨a, ha, hne⟩ := hq
  obtain ⟨rr, hr⟩ : ∃ rr, q.reverse = a :: rr := List.head?_eq_some_iff.1 (List.head?_reverse ▸ ha)
  have h1 : (q ++ '/' :: c).reverse.dropWhile (· != '/') = '/' :: q.reverse := by
    rw [List.reverse_append, List.reverse_cons, List.append_assoc, dropWhile_reverse_noSlash hc.2]
    exact List.dropWhile_cons_of_neg (by simp)
  have h2 : q.reverse.dropWhile (· == '/') = q.reverse := by
    rw [hr]; exact List.dropWhile_cons_of_neg (by simpa using hne)
  have h3 : (q ++ '/' :: c).isEmpty = false := by cases q <;> rfl
  have h4 : q.reverse.isEmpty = false := by rw [hr]; rfl
  unfold parentOf
  simp only [h1, h2, h3, h4, Bool.false_eq_true, if_false, List.reverse_reverse]

theorem parentOf_single (c : List Char) (hc : Comp c) : parentOf c = some [] := by
  have := dropWhile_reverse_noSlash hc.2 []
  unfold parentOf
  simp only [List.append_nil, List.dropWhile_nil] at this
  simp [this, hc.1]

theorem parentOf_join_concat (cs : List (List Char)) (c : List Char) (hcs : ∀ x ∈ cs, Comp x) (hc : Comp c) :
    parentOf (join (cs ++ [c])) = some (join cs) := by
  by_cases hne : cs = []
  · subst hne; exact parentOf_single c hc
  · rw [join_snoc cs c hne]
    exact parentOf_append _ _ (join_getLast hne hcs) hc

theorem parentOf_join_snoc (cs : List (List Char)) (c : List Char) (hne : cs ≠ []) (hcs : ∀ x ∈ cs, Comp x) (hc : Comp c) :
    parentOf (join (cs ++ [c])) = some (join cs) :=
  have _ := hne  -- the statement carries it; the proof does not need it
  parentOf_join_concat cs c hcs hc

theorem parentOf_nil : parentOf [] = none := rfl

theorem matchedStripped_one (g : GGlob) (cand : List Char) (isDir : Bool) :
    matchedStripped [g] cand isDir =
      if mtch g.toks cand && (!g.isOnlyDir || isDir) then (if g.isWhitelist then .whitelist 0 else .ignore 0) else .none := by
  unfold matchedStripped
  cases h : mtch g.toks cand && (!g.isOnlyDir || isDir) <;> simp [h]

theorem matchedStripped_single (g : GGlob) (hw : g.isWhitelist = false) (hd : g.isOnlyDir = false) (cand : List Char) (isDir : Bool) :
    matchedStripped [g] cand isDir = if mtch g.toks cand then .ignore 0 else .none := by
  simp [matchedStripped_one, hw, hd]

/-- its `match` only prints like the one in `matchedOrParents` and `up`: use it with `.trans`, `rw` does not find it -/
theorem M.orElse_ne_none (m u : M) : (match m with | .none => u | m => m) ≠ .none ↔ m ≠ .none ∨ u ≠ .none := by
  cases m <;> simp

/-- a plain (not negated, not directories-only) glob that looks at the last component of the candidate only -/
structure LastComp (g : GGlob) (P : List Char → Prop) : Prop where
  plain : g.isWhitelist = false ∧ g.isOnlyDir = false
  nil : mtch g.toks [] = false  -- for the empty stripped path: the ignore file's own directory
  last : ∀ (cs : List (List Char)) (c : List Char), (∀ x ∈ cs, Comp x) → Comp c → (mtch g.toks (join (cs ++ [c])) = true ↔ P c)

/-- the same, except that `g` may be for directories only -/
def LastCompDir (g : GGlob) (P : List Char → Prop) : Prop := LastComp { g with isOnlyDir := false } P

theorem LastComp.dir {g : GGlob} {P : List Char → Prop} (hg : LastComp g P) : LastCompDir g P := ⟨⟨hg.plain.1, rfl⟩, hg.nil, hg.last⟩

theorem LastCompDir.verdict {g : GGlob} {P : List Char → Prop} (hg : LastCompDir g P) {cs : List (List Char)} (hcs : ∀ x ∈ cs, Comp x)
    (isDir : Bool) :
    matchedStripped [g] (join cs) isDir ≠ .none ↔ ∃ c, cs.getLast? = some c ∧ P c ∧ (g.isOnlyDir = true → isDir = true) := by
  -- `hg` speaks of `{ g with isOnlyDir := false }`, which has the tokens and the negation flag of `g`
  have hw : g.isWhitelist = false := hg.plain.1
  have hnil : mtch g.toks [] = false := hg.nil
  have hlast : ∀ cs c, (∀ x ∈ cs, Comp x) → Comp c → (mtch g.toks (join (cs ++ [c])) = true ↔ P c) := hg.last
  rw [matchedStripped_one, hw]
  rcases List.eq_nil_or_concat cs with rfl | ⟨cs, c, rfl⟩
  · simp [join, hnil]
  · rw [List.concat_eq_append] at hcs ⊢
    have := hlast cs c (fun x hx => hcs x (List.mem_append_left _ hx)) (hcs c (by simp))
    by_cases hp : P c
    · simp [this.2 hp, hp]
    · simp [hp, Bool.eq_false_iff.2 (mt this.1 hp)]

theorem exists_mem_iff_last_or_init {α : Type} (P : α → Prop) (cs : List α) :
    (∃ c ∈ cs, P c) ↔ (∃ c, cs.getLast? = some c ∧ P c) ∨ ∃ c ∈ cs.dropLast, P c := by
  rcases List.eq_nil_or_concat cs with rfl | ⟨cs, c, rfl⟩
  · simp
  · simp [or_comm]

/-- walking up, the directories-only flag plays no part: a parent is a directory -/
theorem up_iff {g : GGlob} {P : List Char → Prop} (hg : LastCompDir g P) : ∀ (fuel : Nat) (cs : List (List Char)), (∀ x ∈ cs, Comp x) →
    cs.length ≤ fuel → (matchedOrParents.up [g] fuel (join cs) ≠ .none ↔ ∃ c ∈ cs.dropLast, P c)
  | 0, cs, _, h => by
    rw [List.eq_nil_of_length_eq_zero (Nat.le_zero.1 h)]
    simp [matchedOrParents.up]
  | fuel + 1, cs, hcs, h => by
    rcases List.eq_nil_or_concat cs with rfl | ⟨cs, c, rfl⟩
    · simp [matchedOrParents.up, join, parentOf_nil]
    · rw [List.concat_eq_append] at hcs h ⊢
      have hcs' : ∀ x ∈ cs, Comp x := fun x hx => hcs x (List.mem_append_left _ hx)
      rw [matchedOrParents.up, parentOf_join_concat cs c hcs' (hcs c (by simp)), List.dropLast_concat]
      refine (M.orElse_ne_none _ _).trans ?_
      rw [hg.verdict hcs' true, up_iff hg fuel cs hcs' (by simpa using h), exists_mem_iff_last_or_init P cs]
      simp

theorem lastCompDir_ignores_iff {g : GGlob} {P : List Char → Prop} (hg : LastCompDir g P) {root path : List Char}
    {cs : List (List Char)} (hcs : ∀ x ∈ cs, Comp x) (hstrip : strip root path = join cs) (isDir : Bool) :
    matchedOrParents root [g] path isDir ≠ .none ↔
      (∃ c, cs.getLast? = some c ∧ P c ∧ (g.isOnlyDir = true → isDir = true)) ∨ ∃ c ∈ cs.dropLast, P c := by
  unfold matchedOrParents
  simp only [List.isEmpty_cons, Bool.false_eq_true, if_false, hstrip]
  refine (M.orElse_ne_none _ _).trans ?_
  rw [hg.verdict hcs isDir, up_iff hg _ cs hcs (length_le_join hcs)]

theorem lastComp_ignores_iff (g : GGlob) (P : List Char → Prop) (hg : LastComp g P) (root path : List Char) (cs : List (List Char)) (hne : cs ≠ []) (hcs : ∀ x ∈ cs, Comp x)
    (hstrip : strip root path = join cs) (isDir : Bool) :
    matchedOrParents root [g] path isDir ≠ .none ↔ ∃ c ∈ cs, P c := by
  have _ := hne  -- the statement carries it; the proof does not need it: no component of the empty path is accepted
  rw [lastCompDir_ignores_iff hg.dir hcs hstrip, exists_mem_iff_last_or_init P cs]
  simp [hg.plain.2]

theorem tail_unique {a b u v : List Char} (hu : ∀ x ∈ u, x ≠ '/') (hv : ∀ x ∈ v, x ≠ '/') (e : a ++ '/' :: u = b ++ '/' :: v) : u = v := by
  have tw : ∀ (l rest : List Char), (∀ x ∈ l, x ≠ '/') → (l.reverse ++ '/' :: rest).takeWhile (· != '/') = l.reverse := by
    intro l rest hl
    rw [List.takeWhile_append_of_pos (fun x hx => by simpa using hl x (List.mem_reverse.1 hx))]
    simp
  have e' := congrArg (fun l => l.reverse.takeWhile (· != '/')) e
  simp only [List.reverse_append, List.reverse_cons, List.append_assoc, List.singleton_append, tw u _ hu, tw v _ hv] at e'
  exact List.reverse_inj.1 e'

theorem recPrefix_lastComp (ts : List Tok) (hts : ∀ s, mtchToks ts s = true → ∀ x ∈ s, x ≠ '/') (cs : List (List Char)) (c : List Char)
    (hc : Comp c) : mtchToks (.recPrefix :: ts) (join (cs ++ [c])) = true ↔ mtchToks ts c = true := by
  rw [mtchToks_recPrefix]
  by_cases hi : cs = []
  · subst hi
    constructor
    · rintro (h | ⟨pre, r, h, _⟩)
      · exact h
      · exact absurd rfl (hc.2 '/' (by simp [show c = pre ++ '/' :: r from h]))
    · exact Or.inl
  · rw [join_snoc cs c hi]
    constructor
    · rintro (h | ⟨pre, r, h, hm⟩)
      · exact absurd rfl (hts _ h '/' (by simp))
      · rwa [tail_unique hc.2 (hts r hm) h]
    · exact fun h => Or.inr ⟨join cs, c, rfl, h⟩

theorem LastComp.of_recPrefix (orig : List Char) {ts : List Tok} {P : List Char → Prop} (hts : ∀ s, mtchToks ts s = true → Comp s)
    (hP : ∀ c, Comp c → (mtchToks ts c = true ↔ P c)) : LastComp ⟨orig, .recPrefix :: ts, false, false⟩ P := by
  have hnil : mtchToks ts [] ≠ true := fun h => (hts [] h).1 rfl
  -- so `ts` is not empty (no tokens match the empty string), and the glob is not the bare `**`
  have heq : ∀ s, mtch (.recPrefix :: ts) s = mtchToks (.recPrefix :: ts) s :=
    mtch_eq fun h => hnil (by cases h; rfl)
  refine ⟨⟨rfl, rfl⟩, Bool.eq_false_iff.2 fun hm => ?_, fun cs c _ hc => ?_⟩
  · rw [heq, mtchToks_recPrefix] at hm
    rcases hm with h | ⟨pre, r, h, _⟩
    · exact hnil h
    · simp at h
  · show mtch (.recPrefix :: ts) _ = true ↔ _
    rw [heq, recPrefix_lastComp ts (fun s hs => (hts s hs).2) cs c hc]
    exact hP c hc

theorem Clean.comp {n : List Char} (h : Clean n) : Comp n := ⟨h.ne, fun x hx => (h.chars x hx).2.1⟩

/-- the glob of the line `name` -/
def nameGlob (orig n : List Char) : GGlob := ⟨orig, .recPrefix :: lits n, false, false⟩

theorem nameGlob_lastComp (orig n : List Char) (hn : Clean n) : LastComp (nameGlob orig n) (fun c => c = n) :=
  .of_recPrefix orig (fun s hs => (lits_iff n s).1 hs ▸ hn.comp) (fun c _ => lits_iff n c)

theorem mtch_name_join (n : List Char) (hn : Clean n) (cs : List (List Char)) (c : List Char) (_hcs : ∀ x ∈ cs, Comp x) (hc : Comp c) :
    mtch (.recPrefix :: lits n) (join (cs ++ [c])) = true ↔ c = n :=
  (nameGlob_lastComp n n hn).last cs c _hcs hc

theorem name_ignores_iff (n orig root path : List Char) (hn : Clean n) (cs : List (List Char)) (hne : cs ≠ []) (hcs : ∀ x ∈ cs, Comp x)
    (hstrip : strip root path = join cs) (isDir : Bool) :
    matchedOrParents root [nameGlob orig n] path isDir ≠ .none ↔ ∃ c ∈ cs, c = n :=
  lastComp_ignores_iff _ _ (nameGlob_lastComp orig n hn) root path cs hne hcs hstrip isDir

/-- non-vacuity, kernel-evaluated on the model: `target` ignores `a/target/x.o` and `target`, not `a/targets/x.o` -/
example :
    let t : List Char := ['t', 'a', 'r', 'g', 'e', 't']
    let g := nameGlob t t
    (matchedOrParents ['.'] [g] (['a', '/'] ++ t ++ ['/', 'x', '.', 'o']) false != .none) = true ∧
    (matchedOrParents ['.'] [g] t true != .none) = true ∧
    (matchedOrParents ['.'] [g] (['a', '/'] ++ t ++ ['s', '/', 'x', '.', 'o']) false != .none) = false := by decide

#print axioms name_ignores_iff
#print axioms lastComp_ignores_iff
end Sp.Glob
