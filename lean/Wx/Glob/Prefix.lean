/-! Display strings of component paths; string-prefix vs component-prefix. -/
namespace Sp.Pfx

abbrev Comp := List Char
abbrev CPath := List Comp        -- absolute, normalised: list of components

def okComp (c : Comp) : Prop := c ≠ [] ∧ '/' ∉ c
def okPath (p : CPath) : Prop := ∀ c ∈ p, okComp c

/-- "/a/b" ; the root is "/" -/
def body : CPath → List Char
  | [] => []
  | c :: r => '/' :: c ++ body r

def disp (p : CPath) : List Char := if p = [] then ['/'] else body p

theorem body_cons (c : Comp) (r : CPath) : body (c :: r) = '/' :: c ++ body r := rfl

theorem body_append (a b : CPath) : body (a ++ b) = body a ++ body b := by
  induction a with
  | nil => rfl
  | cons c r ih => simp [body, ih, List.append_assoc]

theorem body_prefix_of_prefix {a p : CPath} (h : a <+: p) : body a <+: body p := by
  obtain ⟨t, rfl⟩ := h
  rw [body_append]; exact List.prefix_append _ _

theorem body_length_append (a b : CPath) : (body (a ++ b)).length = (body a).length + (body b).length := by
  rw [body_append, List.length_append]

theorem body_length_cons (c : Comp) (r : CPath) : (body (c :: r)).length = 1 + c.length + (body r).length := by
  rw [body_cons, List.length_append, List.length_cons]; omega

theorem okPath_take {p : CPath} (hp : okPath p) (n : Nat) : okPath (p.take n) :=
  fun c hc => hp c (List.mem_of_mem_take hc)

theorem body_take_mono (p : CPath) {i j : Nat} (h : i ≤ j) : body (p.take i) <+: body (p.take j) := by
  apply body_prefix_of_prefix
  exact List.take_prefix_take_left h

theorem body_nonempty {q : CPath} (h : q ≠ []) : 0 < (body q).length := by
  cases q with
  | nil => exact absurd rfl h
  | cons c r => rw [body_length_cons]; omega

theorem body_take_lt {p : CPath} {i j : Nat} (hij : i < j) (hj : j ≤ p.length) :
    (body (p.take i)).length < (body (p.take j)).length := by
  obtain ⟨t, ht⟩ := List.take_prefix_take_left (l := p) (Nat.le_of_lt hij)
  have hne : t ≠ [] := by
    rintro rfl
    have := congrArg List.length ht
    rw [List.append_nil, List.length_take, List.length_take] at this
    omega
  have := body_nonempty hne
  rw [← ht, body_length_append]
  omega

theorem body_head (p : CPath) : body p = [] ∨ (body p).head? = some '/' := by
  cases p
  · exact .inl rfl
  · exact .inr rfl

/-- two components `x`, `y`, each followed by the rest of its path (`u`, `v`: empty or starting with a slash); the first conjunct
    serves a key's last component, which may be a proper string prefix, the second an earlier one: a slash follows it, so the
    two components are equal and the comparison goes on -/
theorem slashfree_prefix {x y u v : List Char} (hx : '/' ∉ x) (hy : '/' ∉ y)
    (hv : v = [] ∨ v.head? = some '/') (h : x ++ u <+: y ++ v) :
    x <+: y ∧ (u.head? = some '/' → x = y ∧ u <+: v) := by
  induction x generalizing y with
  | nil =>
    refine ⟨List.nil_prefix, fun hu => ?_⟩
    cases y with
    | nil => exact ⟨rfl, h⟩
    | cons d y' =>
      -- `u` starts with a slash, `y` has none
      obtain ⟨u', rfl⟩ := List.head?_eq_some_iff.1 hu
      exact absurd ((List.cons_prefix_cons.1 h).1 ▸ List.mem_cons_self) hy
  | cons a x' ih =>
    cases y with
    | nil =>
      -- `v` starts with a slash, `x` has none
      rcases hv with rfl | hv
      · cases List.prefix_nil.1 h
      · obtain ⟨v', rfl⟩ := List.head?_eq_some_iff.1 hv
        exact absurd ((List.cons_prefix_cons.1 h).1 ▸ List.mem_cons_self) hx
    | cons d y' =>
      obtain ⟨rfl, h2⟩ := List.cons_prefix_cons.1 h
      obtain ⟨hp, he⟩ := ih (fun m => hx (List.mem_cons_of_mem _ m)) (fun m => hy (List.mem_cons_of_mem _ m)) h2
      exact ⟨List.cons_prefix_cons.2 ⟨rfl, hp⟩, fun hu => ⟨congrArg _ (he hu).1, (he hu).2⟩⟩

theorem body_prefix_shape {k s : CPath} (hk : okPath k) (hs : okPath s) (hne : k ≠ [])
    (h : body k <+: body s) :
    ∃ k0 c c' rest, k = k0 ++ [c] ∧ s = k0 ++ c' :: rest ∧ c <+: c' := by
  induction k generalizing s with
  | nil => exact absurd rfl hne
  | cons c k' ih =>
    cases s with
    | nil => cases List.prefix_nil.1 h
    | cons c' rest =>
      obtain ⟨hp, he⟩ := slashfree_prefix (hk c List.mem_cons_self).2 (hs c' List.mem_cons_self).2 (body_head rest)
        (List.cons_prefix_cons.1 h).2
      cases k' with
      | nil => exact ⟨[], c, c', rest, rfl, rfl, hp⟩
      | cons d k'' =>
        obtain ⟨rfl, h2⟩ := he rfl
        obtain ⟨k0, e, e', rest', hk0, rfl, he'⟩ := ih (fun x m => hk x (List.mem_cons_of_mem _ m))
          (fun x m => hs x (List.mem_cons_of_mem _ m)) (List.cons_ne_nil _ _) h2
        exact ⟨c :: k0, e, e', rest', congrArg _ hk0, rfl, he'⟩

end Sp.Pfx
