import Wx.Glob.GlobPath
/-! The line `*.ext` at the level of paths: an instance of `lastComp_ignores_iff`. -/
namespace Sp.Glob

/-- the glob of the line `*.ext` -/
def extGlob (orig e : List Char) : GGlob := ⟨orig, .recPrefix :: .star :: lits ('.' :: e), false, false⟩

theorem extGlob_lastComp (orig e : List Char) (he : Clean e) : LastComp (extGlob orig e) (fun c => ∃ stem, c = stem ++ '.' :: e) := by
  refine .of_recPrefix orig (fun s hs => ?_) (fun c hc => (mtchToks_star_lits _ c).trans ?_)
  · obtain ⟨stem, rfl, hst⟩ := (mtchToks_star_lits _ s).1 hs
    exact ⟨by simp, List.forall_mem_append.2 ⟨hst, List.forall_mem_cons.2 ⟨by decide, he.comp.2⟩⟩⟩
  -- for a component the stem is slash-free anyway
  · exact ⟨fun ⟨stem, h, _⟩ => ⟨stem, h⟩, fun ⟨stem, h⟩ => ⟨stem, h, fun x hx => hc.2 x (by simp [h, hx])⟩⟩

theorem ext_ignores_iff (e orig root path : List Char) (he : Clean e) (cs : List (List Char)) (hne : cs ≠ []) (hcs : ∀ x ∈ cs, Comp x)
    (hstrip : strip root path = join cs) (isDir : Bool) :
    matchedOrParents root [extGlob orig e] path isDir ≠ .none ↔ ∃ c ∈ cs, ∃ stem, c = stem ++ '.' :: e :=
  lastComp_ignores_iff _ _ (extGlob_lastComp orig e he) root path cs hne hcs hstrip isDir

theorem addLine_is_extGlob (e : List Char) (he : Clean e) : addLine ('*' :: '.' :: e) = some (some (extGlob ('*' :: '.' :: e) e)) := by
  simpa [extGlob] using addLine_star_ext false false e he

#print axioms ext_ignores_iff
end Sp.Glob
