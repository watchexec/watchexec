import Wx.Fs.C13
import Wx.Fs.C13f
/-! # C13 — Watcher registration converges to the configured path set

> After any sequence of run-time configuration changes (path set, watcher kind, repeated or concurrent changes, changes
> made from inside handlers), once changes stop the set of paths registered with the active filesystem watcher equals the
> configured path set with the configured recursion mode and watcher kind, and an empty set releases the watcher.

Model `Fw` (Wx/Fs/Model.lean): the loop of `sources/fs.rs::worker` with `ConfigWatched`; a *history* is a list of
operations: a configuration change made while the worker is parked (after which the worker runs until it parks again), or
arming an *in-call* change — one made from inside the worker's own next `watch`/`unwatch` call on a given path, the
window in which the unrepaired worker loses a change (F8b). Quiescence = no wake-up pending and change counter seen = current. -/
namespace Props.C13
open Fw

inductive Op
  | change (c : Cfg)                       -- Config::pathset / file_watcher from any task while the worker is parked
  | inCall (name : String) (c : Cfg)       -- the next watch/unwatch call on `name` has this change made inside it

def Op.cfg : Op → Cfg | .change c => c | .inCall _ c => c

def applyOp (s : St) : Op → St
  | .change c => runWorker 16 (applyCfg s c true)
  | .inCall n c => { s with hooks := [(n, c)] }

/-- the repaired worker after start-up (first iteration done, parked) -/
def start : St := runWorker 16 { fx := ⟨true, true⟩ }

theorem J_ops (ops : List Op) (hn : ∀ o ∈ ops, NodupNames o.cfg.paths) : J (ops.foldl applyOp start) := by
  refine List.foldlRecOn ops applyOp J_init fun s h o ho => ?_
  have hno := hn o ho
  cases o with
  | change c => exact J_runWorker (J_applyCfg h c hno) 16
  | inCall n c => exact J_addHook h n c hno

/-- **convergence**: after ANY sequence of changes — made while the worker is parked or from inside its own calls — in a
    quiescent state the active watcher has the configured kind, the registered set and the worker's belief both equal the
    configured path set (modes included: a `WP` is a path with its recursion flag), and there is no watcher iff the set is
    empty. Hypothesis: configured path names are distinct. Fault-free case (no injected watch/unwatch failures). -/
theorem converges (ops : List Op) (hn : ∀ o ∈ ops, NodupNames o.cfg.paths) :
    let s := ops.foldl applyOp start
    wake s = false → Converged s.cfg s.priv :=
  (J_ops ops hn).q

/-- what `Converged` says, spelled out for a non-empty configuration -/
theorem converged_nonempty (c : Cfg) (p : Priv) (h : Converged c p) (hne : c.paths ≠ []) :
    ∃ reg, p.watcher = some (c.kind, reg) ∧ (∀ x, x ∈ reg ↔ x ∈ c.paths) := by
  obtain ⟨reg, h1, _, h3, _⟩ := (converged_ne_nil hne).1 h
  exact ⟨reg, h1, h3⟩

/-- for the empty configuration: the watcher is released -/
theorem converged_empty (c : Cfg) (p : Priv) (h : Converged c p) (he : c.paths = []) : p.watcher = none :=
  ((converged_nil he).1 h).1

/-- non-vacuity: a history in which a change made from inside `watch(b)` replaces the path set AND the watcher kind ends
    quiescent, with exactly the finally configured path registered with a watcher of the finally configured kind -/
example :
    let ops := [Op.change ⟨[a'], .native⟩, .inCall "b" ⟨[b'], .poll⟩, .change ⟨[a', b'], .native⟩]
    let s := ops.foldl applyOp start
    wake s = false ∧ s.cfg = ⟨[b'], .poll⟩ ∧ s.watcher = some (.poll, [b']) := by decide

/-- witnesses of F8a and F8b in the unrepaired worker -/
theorem violated_before_repairs :
    (let s1 := runWorker 16 (applyCfg (runWorker 16 {}) ⟨[a'], .native⟩ true)
     let s2 := runWorker 16 (applyCfg s1 ⟨[a'], .poll⟩ true)
     wake s2 = false ∧ s2.watcher = some (.poll, [])) ∧
    (let s0 := { runWorker 16 {} with hooks := [("a", ⟨[a', b'], .native⟩)] }
     let s1 := runWorker 16 (applyCfg s0 ⟨[a'], .native⟩ true)
     wake s1 = false ∧ s1.cfg.paths = [a', b'] ∧ s1.watcher = some (.native, [a'])) := ⟨f8a_witness, f8b_witness⟩

/-- **a path that fails to register does not prevent the others** (one iteration of the repaired worker, any set of
    failing names, hooks changing the configuration from inside the calls allowed) -/
theorem failing_path_does_not_prevent_the_others (s : St) (hf : s.fx.f8a = true) (hU : s.failU = []) (hs : Sync' s.priv)
    (hc : NodupNames s.cfg.paths) (x : WP) (hx : x ∈ s.cfg.paths) (hok : s.failW.contains x.name = false) :
    ∃ k reg, (iteration s).watcher = some (k, reg) ∧ x ∈ reg := others_are_registered s hf hU hs hc x hx hok

/-- **reported once per attempt**: when the back-end's error names at most one path (the path it was given, another spelling
    of it, or none) that is one runtime error per failing attempt -/
theorem one_error_per_failing_attempt (s : St) (hf : s.fx.f8a = true) (hU : s.failU = []) (hs : Sync' s.priv)
    (hc : NodupNames s.cfg.paths) (hne : s.cfg.paths ≠ []) (h1 : ∀ e ∈ s.named, e.2 ≤ 1) :
    (iteration s).errs = s.errs +
      ((s.cfg.paths.filter (fun p => !(ensureWatcher s).localSet.contains p)).filter (fun x => s.failW.contains x.name)).length :=
  errors_one_per_attempt s hf hU hs hc hne h1

/-- in general (`notify_multi_path_errors`): per failing attempt one error for each path its notify error names, one when it
    names none — never a second error for the same attempt and path -/
theorem errors_per_failing_attempt (s : St) (hf : s.fx.f8a = true) (hU : s.failU = []) (hs : Sync' s.priv)
    (hc : NodupNames s.cfg.paths) (hne : s.cfg.paths ≠ []) : (iteration s).errs = s.errs + iterationErrs s :=
  errors_once_per_attempt s hf hU hs hc hne

/-- the worker's belief stays equal to what is registered (`Sync'`), so the failed path is attempted again on the next change -/
theorem belief_stays_in_sync (s : St) (hf : s.fx.f8a = true) (hU : s.failU = []) (hs : Sync' s.priv)
    (hc : NodupNames s.cfg.paths) (hne : s.cfg.paths ≠ []) : Sync' (iteration s).priv :=
  (iteration_faults s hf hU hs hc hne).1

/-- an empty configured set releases the watcher in that very iteration, also after failures -/
theorem empty_set_always_releases (s : St) (h : s.cfg.paths = []) : (iteration s).watcher = none ∧ (iteration s).localSet = [] :=
  empty_set_releases s h

/-- **a failed unregistration is remembered, hence attempted again** at the next wake-up: the path stays in the worker's own set
    and in the watcher's registrations, and exactly its runtime error(s) are reported -/
theorem failed_unregistration_is_remembered (s : St) (p : WP) (h : s.failU.contains p.name = true) :
    (doUnwatch s p).localSet = s.localSet ∧ (doUnwatch s p).watcher = s.watcher ∧
    (s.watcher ≠ none → (doUnwatch s p).errs = s.errs + errNOf s.named p.name) := failed_unwatch_is_remembered s p h

end Props.C13
