import Wx.Job.C08
import Wx.Job.C08b
import Wx.Job.C06
import Wx.Job.C08t
import Wx.Job.C08m
import Wx.Cli.SignalPrioThm
import Wx.Cli.Action
import Wx.Reg.Thm
/-! # C08 — Quit always terminates and leaves no supervised process behind

> After the action handler requests a quit the main task finishes within a bounded time whatever the jobs are doing:
> promptly for an abort, and for a graceful quit no later than the grace periods then in effect plus a small margin.
> No process started by a job survives the shutdown, including the other members of its process group after a graceful
> quit of a grouped command, and in the CLI an interrupt or terminate signal leads to exactly this shutdown.

A graceful quit is, per job, `stop_with_signal(sig, grace)` then `delete().await` = `[GracefulStop]` then `[Stop, Delete]`
in the normal queue; the worker then joins every job task. The statements below are per job, followed by the composition
over the job map (`main_task_done_after_largest_deadline`); abort (`KillOnDrop`) and real process groups are checked by the
quit-sim / quit-real streams (see DESIGN.md §12 and known findings F15a, F15b). -/
namespace Props.C08
open Jm

/-- **the trailing Delete finds nothing alive** (every fix configuration, every history of API-shaped sends): whenever a
    Delete queued directly behind a Stop is at the head of the normal queue, nothing is running, nothing is un-reaped,
    and handling it ends the task -/
theorem delete_after_stop_ends_clean (cfg : Fixes) (behs : List Beh) (ops : List Op) (hok : ∀ o ∈ ops, OpOkFor ShapeOk o) :
    ∀ y ∈ runOps { st := { cfg := cfg, behs := behs, hookSet := true, parked := true } } ops,
      ∀ (f : FlagId) (r : List Msg), y.st.normal = ⟨.delete, f⟩ :: r → isStop y.st.lastNormal = true →
        NotRunning y.st ∧ y.st.live = [] ∧ (handle y.st ⟨.delete, f⟩).alive = false := c08_delete_after_stop cfg behs ops hok

/-- **no new process during a graceful quit** (repaired code): between the quit's GracefulStop and the next normal control
    the restart slot is empty and any armed timer is a stop timer, so when the Delete becomes receivable nothing runs -/
theorem delete_after_graceful_stop_ends_clean (behs : List Beh) (ops : List Op) (hok : ∀ o ∈ ops, OpOkFor ShapeOk o) :
    ∀ y ∈ runOps { st := { cfg := Fixes.all, behs := behs, hookSet := true, parked := true } } ops,
      ∀ (f : FlagId) (r : List Msg), Src.normal ∈ recvCandidates y.st → y.st.normal = ⟨.delete, f⟩ :: r → isGS y.st.lastNormal = true →
        NotRunning y.st ∧ y.st.live = [] ∧ (handle y.st ⟨.delete, f⟩).alive = false := c08_delete_idle behs ops hok

/-- **the bound's ingredients**: the quit's signal goes out in the step that handles it and arms `now + grace` (this
    statement); at the deadline the kill is the only candidate and it reaps in that turn (`Props.C06.kill_at_expiry`) — so a
    job ends no later than the remaining armed grace period plus the quit's own -/
theorem bound_ingredients (s : St) (c : ChildId) (sig : Sig) (grace : Nat) (f : FlagId) (h : s.cs = .running c) :
    handle s ⟨.gracefulStop sig grace, f⟩ = { s.signalChild c sig with timer := some ⟨s.now + grace, f, false⟩ } :=
  graceful_stop_step s c sig grace f h

/-- what F4 does to a quit in the unrepaired code (kernel-checked): a third process is started during the shutdown -/
theorem stale_restart_slot_spawned_during_quit :
    (runOps { st := { parked := true, behs := [.ignores, .exitsAfterSignal 5, .ignores] } }
      [.send .normal [.start] false, .settle, .send .normal [.tryGracefulRestart 15 10] false, .advance 50,
       .send .normal [.gracefulStop 15 10] false, .send .normal [.delete] true, .advance 100]).map (fun x => (x.st.alive, x.st.live)) = [(false, [2])] :=
  c08_fails_today

/-- **the time bound, per job**: after the worker's quit sequence (GracefulStop, then Stop + Delete) the job task is gone
    whenever the clock shows more than: the expiry of the grace timer armed at the quit (or the quit instant), plus the
    grace periods of graceful controls still queued, plus the quit's own grace period — for every continuation: every race
    resolution, any passage of time, further sends without a grace period, handle drops -/
theorem job_gone_after_deadline (x : Sim) (hcfg : x.st.cfg = Fixes.all) (hgone : x.st.isRaised 0 = false) (sig : Sig) (g : Nat)
    (ops : List Op) (hops : ∀ o ∈ ops, OpOkFor2 NoGrace o) :
    ∀ y ∈ runOps (doSend (doSend x .normal [.gracefulStop sig g] false) .normal [.stop, .delete] false) ops,
      deadline x.st + g < y.st.now → y.st.alive = false := c08_quit_bound x hcfg hgone sig g ops hops

/-- an idle job with nothing armed and nothing queued has deadline = now: the quit then takes at most its own grace period -/
theorem idle_deadline (s : St) (ht : s.timer = none) (hn : s.normal = []) (hh : s.high = []) (hu : s.urgent = []) : deadline s = s.now := by
  simp [deadline, base, queued, gsum, ht, hn, hh, hu]

/-- **no deadlock on the way**: an alive job with a non-empty normal queue that takes no turn is waiting for an armed,
    unexpired grace timer — nothing else ever holds a control back -/
theorem only_a_grace_timer_holds_controls_back {s : St} (hcfg : s.cfg = Fixes.all) (hal : s.alive = true) (hne : s.normal ≠ [])
    (hidle : turns s = []) : ∃ tm, s.timer = some tm ∧ s.now < tm.until_ := idle_timer hcfg hal hne hidle

/-- **the main task, any number of jobs**: one run per job after the quit (`Finals`), read at a common instant `T`; each job
    in any state of the repaired code — still reachable or already ended — and continuing with any history that carries no
    further grace period. Once `T` is later than the LARGEST per-job bound (deadline at the quit + the quit's grace period; 0
    for an ended task) no job task is alive, which is when both `join_all`s of the worker's quit branch have returned. -/
theorem main_task_done_after_largest_deadline (sig : Sig) (g : Nat) (jobs : List (Sim × List Op)) (hj : ∀ j ∈ jobs, JobOk j)
    (ys : List Sim) (hf : Finals sig g jobs ys) (T : Nat) (hT : ∀ y ∈ ys, y.st.now = T)
    (hlt : mainBound (jobs.map (·.1)) g < T) : ∀ y ∈ ys, y.st.alive = false := c08_main_bound sig g jobs hj ys hf T hT hlt

/-- a job task that has ended never comes back, whatever is sent to it, polled on it or dropped afterwards -/
theorem ended_task_stays_ended (x : Sim) (h : x.st.alive = false) (ops : List Op) : ∀ y ∈ runOps x ops, y.st.alive = false :=
  dead_stays_dead x h ops

/-- **in the CLI an interrupt or terminate signal leads to this shutdown at once**: the signal source sends INT and TERM as
    URGENT events (table regenerated from sources/signal.rs on every run) — unfiltered, and flushing the pending batch in the
    turn they are received (`Sp.Th.turn_urgent`), so the handler's quit decision (`Ca.onSignals`) is not held up by the window -/
theorem interrupt_and_terminate_travel_urgent :
    Wp.signalPriority "Interrupt" = "Urgent" ∧ Wp.signalPriority "Terminate" = "Urgent" := Wp.interrupt_and_terminate_are_urgent

/-- **which jobs the quit reaches** (`action/worker.rs` registry, `action/handler.rs`, `id.rs`; model `Rg`): for every script of
    actions — jobs created on any OS threads, ids minted on any threads, get-or-create asked for any held id any number of times in
    the same or in later actions, jobs deleted in between — every job ever started is in the worker's registry or has ended, so
    the graceful quit stops every live one (`leaked = []`) and the main task joins no task the quit did not stop (`hung = []`) -/
theorem quit_reaches_every_job (script : List (List Rg.Op × List Nat)) :
    Rg.leaked (Rg.run (Rg.init { f19 := true }) script) = [] ∧ Rg.hung (Rg.run (Rg.init { f19 := true }) script) = [] :=
  Rg.no_job_outside_the_registry script

/-- **promptly for an abort, nothing left behind**: the worker holds the task of every job ever started, so dropping its task set
    (which aborts them all; the children die with their tasks) reaches every one -/
theorem abort_reaches_every_job (script : List (List Rg.Op × List Nat)) :
    Rg.abortLeaked (Rg.run (Rg.init { f19 := true }) script) = [] := Rg.abort_reaches_every_job_task script

/-- without the repair F19 the quit misses a job: the same new id asked for twice within one action starts two jobs, the
    first of which is never registered -/
theorem quit_missed_a_job_before_F19 : Rg.leaked (Rg.run (Rg.init { f19 := false }) [([.mint 0, .goc 0, .goc 0], [])]) = [0] :=
  Rg.get_or_create_twice_leaks_today

/-- **`--map-signal`**: an interrupt or terminate the user mapped does not quit — the command gets what it was mapped to, or nothing;
    one that is not mapped quits whatever else is mapped (`first_interrupt_quits_gracefully` has exactly that premise) -/
theorem mapped_interrupt_is_for_the_command (cfg : Ca.Cfg) (n : Nat) (sigs : List Jm.Sig)
    (ht : Ca.term ∈ sigs → (Ca.mapped cfg Ca.term).isSome) (hi : Ca.sigInt ∈ sigs → (Ca.mapped cfg Ca.sigInt).isSome) :
    Ca.onSignals cfg n sigs = .pass (Ca.translate cfg sigs) := Ca.mapped_interrupt_does_not_quit cfg n sigs ht hi

theorem unmapped_interrupt_quits_gracefully (cfg : Ca.Cfg) (sigs : List Jm.Sig)
    (h : (Ca.term ∈ sigs ∧ Ca.mapped cfg Ca.term = none) ∨ (Ca.sigInt ∈ sigs ∧ Ca.mapped cfg Ca.sigInt = none)) :
    Ca.onSignals cfg 0 sigs = .quit (.graceful (cfg.stopSignal.getD Ca.term) cfg.stopTimeout) := Ca.first_interrupt_quits_gracefully cfg sigs h

end Props.C08
