import Wx.Cli.Action
import Wx.Queue.Props
import Wx.Job.C04
import Wx.Cli.ComposeThm
/-! # C05 — On-busy policy: do-nothing, queue, restart and signal behave as documented

> With the CLI's action logic a change while the command is idle starts it; a change while it runs does nothing
> (do-nothing), only sends the configured signal (signal), stops it gracefully and starts a fresh run (restart), or causes
> exactly one further run after the current one ends (queue). Runs of the command never overlap, the first run happens at
> start-up unless postponed, and in restart and queue modes the last change is always followed by a run that started after it.

`Ca.react` is what the state-query closure (which runs inside the job task) sends, as a function of the mode, the job
state at that moment and the queued-for record; its composition with the job model `Jm` (Wx/Cli/Compose.lean) is run by the driver and tied to
the real handler by the cli-action stream. `Qm` is the abstract queue-mode protocol (handler, job task, follow-ups). -/
namespace Props.C05
open Ca Jm

/-- **idle → exactly one Start** (every mode) -/
theorem idle_change_starts (cfg : Cfg) (cs : CS) (q) (h : ∀ c, cs ≠ .running c) :
    (react cfg cs q).1 = [.send [.start], .send [.func setupId]] ∧ (react cfg cs q).2 = q := react_idle cfg cs q h

/-- **do-nothing**: nothing is sent while running -/
theorem do_nothing_mode (cfg : Cfg) (c : ChildId) (q) (h : cfg.mode = .doNothing) : (react cfg (.running c) q).1 = [] := react_doNothing cfg c q h

/-- **signal**: exactly one Signal control — stop-signal, else signal, else TERM -/
theorem signal_mode (cfg : Cfg) (c : ChildId) (q) (h : cfg.mode = .signal) :
    (react cfg (.running c) q).1 = [.send [.signal ((cfg.stopSignal.orElse fun _ => cfg.signal).getD term)]] := react_signal cfg c q h

/-- **restart**: GracefulStop(stop-signal or TERM, stop-timeout) then Start, in one send — by C06 the Start is held back
    until the old process has ended, so exactly one fresh run follows -/
theorem restart_mode (cfg : Cfg) (c : ChildId) (q) (h : cfg.mode = .restart) :
    (react cfg (.running c) q).1 = [.send [.gracefulStop (cfg.stopSignal.getD term) cfg.stopTimeout, .start], .send [.func setupId]] :=
  react_restart cfg c q h

/-- **queue**: one follow-up per run -/
theorem queue_mode (cfg : Cfg) (c : ChildId) (h : cfg.mode = .queue) :
    (∀ q, q ≠ some c → react cfg (.running c) q = ([.followUp c], some c)) ∧ react cfg (.running c) (some c) = ([], some c) :=
  ⟨fun q hq => react_queue_first cfg c q h hq, react_queue_again cfg c h⟩

/-- no mode ever sends a forceful Stop, a Delete or an ungraceful try-restart -/
theorem never_forceful (cfg : Cfg) (cs : CS) (q) : ∀ ctl ∈ sentCtls (react cfg cs q).1, ctl ≠ .stop ∧ ctl ≠ .delete ∧ ctl ≠ .tryRestart :=
  react_no_forceful cfg cs q

/-- **runs never overlap**: whatever is sent, the job has at most one live process (C04) -/
theorem runs_never_overlap (cfg : Fixes) (behs : List Beh) (ops : List Op) :
    ∀ y ∈ runOps { st := { cfg := cfg, behs := behs, hookSet := true, parked := true } } ops, Inv y.st := c04 cfg behs ops

/-- **queue-mode freshness over ALL interleavings** of handler, job task and follow-up tasks (abstract protocol, per-run
    record): in every quiescent state the last change is followed by a run that started after it -/
theorem queue_mode_fresh (es : List Qm.Ev) :
    Qm.quiescent (Qm.run { v := .perRun } es) = true → Qm.fresh (Qm.run { v := .perRun } es) = true := Qm.perRun_fresh es

/-- kernel-checked witnesses: the unrepaired protocol (F10) and the obvious repair (reset before start) both reach a quiescent, stale state -/
theorem old_protocol_and_reordering_lose_changes :
    (∃ es, Qm.quiescent (Qm.run { v := .today } es) = true ∧ Qm.fresh (Qm.run { v := .today } es) = false) ∧
    (∃ es, Qm.quiescent (Qm.run { v := .reorder } es) = true ∧ Qm.fresh (Qm.run { v := .reorder } es) = false) :=
  ⟨⟨_, Qm.f10_today⟩, ⟨_, Qm.reorder_insufficient⟩⟩

/-- **runs never overlap** — for every configuration, child behaviour, `--delay-run`, and every script of events (changes,
    signals, mixed actions, any timing, every race resolution) — and what the job does is a run of the documented machine -/
theorem composed_runs_never_overlap (cfg : Cfg) (behs : List Beh) (delay : Option Nat) (evs : List Ev) :
    ∀ c ∈ runEvs (initC cfg behs delay) evs, Jm.Inv c.x.st ∧ SpecRun (initC cfg behs delay).x.st.abs c.x.st.abs c.x.st.fx :=
  cli_runs_never_overlap cfg behs delay evs

/-- **restart stops gracefully**: without an interrupt / terminate signal, every kill comes at least the stop timeout
    after a signal to the same process -/
theorem composed_never_kills_early (cfg : Cfg) (behs : List Beh) (delay : Option Nat) (evs : List Ev) (hq : ∀ e ∈ evs, NoQuitEv e) :
    ∀ c ∈ runEvs (initC cfg behs delay) evs, ∀ t ch, (t, Obs.kill ch) ∈ c.x.st.log →
      ∃ t0 sig, (t0, Obs.signal ch sig) ∈ c.x.st.log ∧ t0 + cfg.stopTimeout ≤ t :=
  cli_never_kills_early cfg behs delay evs hq

/-- **do-nothing, queue and signal modes never kill** -/
theorem composed_other_modes_never_kill (cfg : Cfg) (hm : cfg.mode ≠ .restart) (behs : List Beh) (delay : Option Nat) (evs : List Ev)
    (hq : ∀ e ∈ evs, NoQuitEv e) : ∀ c ∈ runEvs (initC cfg behs delay) evs, ∀ t ch, (t, Obs.kill ch) ∉ c.x.st.log :=
  cli_other_modes_never_kill cfg hm behs delay evs hq

end Props.C05
