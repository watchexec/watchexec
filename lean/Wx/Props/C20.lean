import Wx.Pure.OriginsThm
/-! # C20 — Project origins are exactly the marked ancestors

> Origin detection returns exactly those directories among the given path and its ancestors that contain a recognised
> project marker, and nothing outside that chain; the project types reported for a directory correspond exactly to the
> markers present in it. Every project type is classified as either version control or software suite, never neither and never both.

A *chain* is the list of (directory, listing) from the given path up to the root; a listing maps names to file / dir /
other. The marker tables, `is_vcs`, `is_soft` and the doc-comment class of every variant are regenerated from
crates/project-origins/src/lib.rs on every run. -/
namespace Props.C20
open Wp Wp.Gen

/-- **exactly the marked members of the chain** — any chain length; a marker counts only with the right node type -/
theorem origins_are_exactly_the_marked (chain : List (String × Listing)) (d : String) :
    d ∈ origins chain ↔ ∃ l, (d, l) ∈ chain ∧ l ≠ [] ∧ ∃ m ∈ originMarkers, present l m = true := origins_exact chain d

/-- nothing outside the chain, and in chain order -/
theorem nothing_outside_the_chain (chain : List (String × Listing)) : (origins chain).Sublist (chain.map (·.1)) := origins_sublist chain

/-- **types = markers present** -/
theorem types_are_exactly_the_markers_present (l : Listing) (t : ProjectType) :
    t ∈ types l ↔ ∃ name isDir, (name, isDir, t) ∈ typeMarkers ∧ present l (name, isDir) = true := types_exact l t

/-- the code's tables are the documented / recognised ones -/
theorem tables_are_the_documented_ones :
    ((∀ m ∈ typeMarkers, m ∈ documented) ∧ (∀ m ∈ documented, m ∈ typeMarkers)) ∧ originMarkers = recognised ∧
    (∀ m ∈ typeMarkers, (m.1, m.2.1) ∈ originMarkers) := ⟨typeMarkers_documented, originMarkers_recognised, typeMarkers_are_originMarkers⟩

/-- **exactly one of version control / software suite**, and it is the class the documentation gives -/
theorem classified_exactly_once (t : ProjectType) : isVcs t ≠ isSoft t := classified t
theorem classification_is_documented : (∀ t ∈ ProjectType.all, isVcs t = (docClass t == "VCS")) ∧ (∀ t ∈ ProjectType.all, isSoft t = (docClass t == "Soft")) :=
  ⟨isVcs_documented, isSoft_documented⟩

/-- a directory called like a file marker is not a marker -/
example : types [("Cargo.toml", .dir)] = [] ∧ types [("Cargo.toml", .file), (".git", .dir)] = [.git, .cargo] := by decide +kernel

/-- the model the correspondence stream runs (hand-written tables, nothing generated) IS the code's function over the
    regenerated tables: `origins()` on every chain, `types()` on every listing -/
theorem code_is_the_specification :
    (∀ chain, origins chain = originsDoc chain) ∧ (∀ l n, n ∈ typesDoc l ↔ ∃ t ∈ types l, ptNameK t = n) :=
  ⟨origins_eq_doc, types_eq_doc⟩

end Props.C20
