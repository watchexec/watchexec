import Wx.Pure.C18
/-! # C18 — Commands are spawned with exactly the configured program and arguments

> Without a shell the child receives the program and every argument byte for byte with no splitting or interpretation;
> with a shell it is invoked as the shell, its options, the program option, the command string, then the extra
> arguments, in that order. Process-group and session options place the child in its own group or session, and
> environment or working-directory changes made by the spawn hook are visible to the child.

`argv` / `wrappers` model `Command::to_spawnable`, `interpret` the CLI's `interpret_command_args`. That `execve`
delivers the vector unchanged, that the wrappers have their effect and that the hook's changes reach every (re)spawn is
validated with real children by the spawn stream (and, for the hook, proved on the job model: `Props.C09.model_spawn_refines`). -/
namespace Props.C18
open Wp

theorem exec_verbatim (p : Str) (a : List Str) : argv (.exec p a) = p :: a := argv_exec p a

theorem shell_order (sh : Shell) (c : Str) (a : List Str) :
    argv (.shell sh c a) = [sh.prog] ++ sh.options ++ sh.programOption.toList ++ [c] ++ a := argv_shell sh c a

/-- session wins over grouped; kill-on-drop is always there -/
theorem wrappers_by_options (o : SpawnOptions) :
    (o.session = true → wrappers o = [.killOnDrop, .processSession] ++ (if o.resetSigmask then [.resetSigmask] else [])) ∧
    (o.session = false → o.grouped = true → wrappers o = [.killOnDrop, .processGroupLeader] ++ (if o.resetSigmask then [.resetSigmask] else [])) ∧
    (o.session = false → o.grouped = false → wrappers o = [.killOnDrop] ++ (if o.resetSigmask then [.resetSigmask] else [])) :=
  ⟨wrappers_session o, wrappers_grouped o, wrappers_plain o⟩

/-- CLI, no shell (`-n` / `--shell=none`): the trailing arguments become program and arguments verbatim -/
theorem cli_no_shell (a : CliCmd) (p : Str) (r : List Str) (hp : a.program = p :: r)
    (h : a.noShell = true ∨ (a.shell.orElse fun _ => a.envShell) = some "none".toList) :
    interpret a = .ok (.exec p r, optsOf a) ∧ argv (.exec p r) = a.program := interpret_noshell a p r hp h

/-- CLI, with a shell: shell words (split on ASCII whitespace), `-c`, then the arguments joined by single spaces -/
theorem cli_shell (a : CliCmd) (sh : Str) (hn : a.noShell = false) (hs : (a.shell.orElse fun _ => a.envShell).getD "sh".toList = sh)
    (hne : sh ≠ "none".toList) (w : Str) (ws : List Str) (hw : splitWs [] sh = w :: ws) :
    interpret a = .ok (.shell { prog := w, options := ws, programOption := some "-c".toList } (joinSp a.program) [], optsOf a) ∧
    argv (.shell { prog := w, options := ws, programOption := some "-c".toList } (joinSp a.program) []) = w :: ws ++ ["-c".toList, joinSp a.program] :=
  interpret_shell a sh hn hs hne w ws hw

/-- the shell string is split into non-empty, whitespace-free words and nothing but whitespace is lost -/
theorem shell_words (s : Str) : (∀ w ∈ splitWs [] s, w ≠ [] ∧ ∀ c ∈ w, isAsciiWs c = false) ∧ (splitWs [] s).flatten = s.filter (fun c => !isAsciiWs c) :=
  ⟨splitWs_clean s [] (by simp), by simpa using flatten_splitWs [] s⟩

end Props.C18
