import Wx.Job.C09
import Wx.Job.C09c
import Wx.Job.ApiThm
/-! # C09 — Job lifecycle follows the documented state machine

> For every sequence of controls the job's observable state (pending, running, finished with status, and the previous
> run's result), the number and order of spawns, signals and kills, and the moments at which tickets resolve are those of
> the documented semantics. Start is a no-op while running and stop a no-op while not, restart always leaves a fresh
> process running, try-restart never starts an idle job, wait-for-end resolves at once when nothing is running, and the
> spawn hook runs once before each spawn with its changes taking effect.

`Jm.specStep` / `Jm.specExit` is the documented machine over `(cs, prev, hook, error handler, spawn count)`: new state, the
process-visible effects in order, and whether the control's ticket resolves in that step. -/
namespace Props.C09
open Jm

/-- **refinement, control arms**: handling any control is a step of the documented machine — same new state, exactly
    the spec's effects appended to the effect log, and the flag is raised iff the spec says "now" -/
theorem control_refines (s : St) (m : Msg) (hall : s.cfg = Fixes.all)
    (hch : ∀ c, s.cs = .running c → ∃ ch, s.child? c = some ch) :
    (handle s m).abs = (specStep s.abs m.ctl).1 ∧
    (handle s m).fx = (specStep s.abs m.ctl).2.1.reverse ++ s.fx ∧
    (s.isRaised m.done = false → (handle s m).isRaised m.done = (specStep s.abs m.ctl).2.2) := handle_refines s m hall hch

/-- **refinement, natural exit**: the wait branch is the machine's exit step (finished with the child's status, one
    `reaped`, and a respawn exactly if a graceful restart was pending) -/
theorem exit_refines (s : St) (c : ChildId) (hall : s.cfg = Fixes.all) :
    (waitBranch s c).abs = (specExit s.abs c (s.statusOf c) s.onEndRestart.isSome).1 ∧
    (waitBranch s c).fx = (specExit s.abs c (s.statusOf c) s.onEndRestart.isSome).2.reverse ++ s.fx := waitBranch_refines s c hall

theorem start_noop_while_running (sp : Sp) (c : ChildId) (h : sp.cs = .running c) : specStep sp .start = (sp, [], true) :=
  specStep_noop (cfg := {}) (ctl := .start) (by rw [h]; trivial)

theorem stop_noop_while_not_running (sp : Sp) (h : ∀ c, sp.cs ≠ .running c) : specStep sp .stop = (sp, [], true) :=
  specStep_noop (cfg := {}) (ctl := .stop) h

theorem try_restart_never_starts_idle (sp : Sp) (h : ∀ c, sp.cs ≠ .running c) :
    specStep sp .tryRestart = (sp, [], true) ∧ ∀ g ms, specStep sp (.tryGracefulRestart g ms) = (sp, [], true) :=
  ⟨specStep_noop (cfg := {}) (ctl := .tryRestart) h, fun g ms => specStep_noop (cfg := {}) (ctl := .tryGracefulRestart g ms) h⟩

theorem wait_for_end_at_once_when_idle (sp : Sp) (h : ∀ c, sp.cs ≠ .running c) : specStep sp .nextEnding = (sp, [], true) := by
  cases hc : sp.cs with
  | running c => exact absurd hc (h c)
  | pending => simp [specStep, hc]
  | finished s => simp [specStep, hc]

/-- restart = Stop then Start (the generated API table): from a running state the old child is killed and reaped, then a
    fresh spawn attempt follows, with the hook (if set) right before it -/
theorem restart_is_stop_then_start : (apiOf .restart) = (.normal, [.stop, .start]) ∧ lookupApi "restart" = some ("Normal", ["Stop", "Start"]) :=
  ⟨rfl, api_generated .restart⟩

/-- **hook once before each spawn, previous = the run before**: every spawn attempt of the machine is `[hook?] ++ [spawn n | spawnFail …]`
    and a respawn records the state it replaces as `prev` -/
theorem hook_then_spawn (sp : Sp) (b : Beh) :
    (sp.spawnB b).2 = (if sp.hook then [Obs.hook] else []) ++
      (match b with | .spawnFails => [Obs.spawnFail] ++ (if sp.errh then [Obs.errh] else []) | _ => [Obs.spawn sp.n]) := by
  cases b <;> simp [Sp.spawnB]

theorem spawnB_keeps_prev (sp : Sp) (b : Beh) : (sp.spawnB b).1.prev = sp.prev := by
  cases b <;> rfl

theorem respawn_records_previous (sp : Sp) : (sp.respawn.1).prev = some sp.cs := by
  unfold Sp.respawn Sp.spawn
  rw [spawnB_keeps_prev]; rfl

/-- the model's spawn is the machine's spawn (hook called once, the command it mutated is the one spawned) -/
theorem model_spawn_refines (s : St) (hn : NotRunning s) :
    (if s.spawn.2 = true then s.spawn.1 else s.spawn.1.errHandler).abs = s.abs.spawn.1 ∧
    (if s.spawn.2 = true then s.spawn.1 else s.spawn.1.errHandler).fx = s.abs.spawn.2.reverse ++ s.fx := spawn_refines s hn

/-- **whole run** (repaired code, `Fixes.all`): whatever controls are sent at whatever priority, whatever the children do, however time passes and
    every race resolves, the job's observable state and the log of everything it did to processes and hooks are those of a
    run of the documented machine (`SpecRun`: SOME sequence of `specStep`s, `specExit`s and handle drops; that each executed
    control is one such step and each natural end one exit is `control_refines` / `exit_refines`) -/
theorem every_history_is_a_documented_run (behs : List Beh) (ops : List Op) :
    let x0 : Sim := { st := { cfg := Fixes.all, behs := behs, hookSet := true, parked := true } }
    ∀ y ∈ runOps x0 ops, SpecRun x0.st.abs y.st.abs y.st.fx := c09_whole_run behs ops

/-- the documented machine does nothing to a process except in a step: an empty run has an empty effect log -/
theorem documented_run_starts_silent (sp0 : Sp) : SpecRun sp0 sp0 [] := SpecRun.start

/-- non-vacuity: start, then stop, on a child that exits on the signal — the reachable state has a non-empty effect log -/
example : (runOps { st := { cfg := Fixes.all, behs := [.ignores], hookSet := true, parked := true } }
    [.send .normal [.start] true, .settle, .send .normal [.stop] true, .settle]).all (fun x => x.st.fx.length ≥ 2) = true := by decide

end Props.C09
