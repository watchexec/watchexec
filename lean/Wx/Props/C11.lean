import Wx.Glob.C11Inst
import Wx.Glob.GlobThm
import Wx.Glob.GlobPath2
import Wx.Glob.GlobPath3
/-! # C11 — Path filter verdicts follow the documented glob, ignore and extension rules

> For the default path filterer an event without paths always passes and an event naming an explicitly watched file
> always passes; otherwise the event is rejected if the loaded ignore files reject it, and else passes exactly when at
> least one of its paths is not matched by an ignore pattern and, if filter patterns or extensions are configured,
> matches a filter pattern or (being a non-directory) has one of the extensions. Ignore patterns take precedence over
> filters, adding a non-negated ignore pattern can only turn passes into rejections, and an empty configuration passes everything.

`Sp.C11.checkEvent e c paths` is the decision with everything external as parameters (`Env`: the glob matcher, the
`origin//rel` re-match, the whitelist test, the ignore-file layer, `Path::extension`); `Sp.GS.checkEventC` is that decision
instantiated with the concrete models — the function the correspondence stream runs against `GlobsetFilterer::check_event`. -/
namespace Props.C11
open Sp.C11

theorem no_paths_passes (e : Env) (c : Cfg) (h : e.igfPass [] = true) : checkEvent e c [] = true := no_paths_pass e c h

theorem whitelisted_file_passes (e : Env) (c : Cfg) (ps : List PTag) (p : PTag) (hp : p ∈ ps) (hw : e.whitelisted p = true) :
    checkEvent e c ps = true := whitelisted_pass e c ps p hp hw

theorem ignore_files_reject (e : Env) (c : Cfg) (ps : List PTag) (hw : ps.any e.whitelisted = false) (hi : e.igfPass ps = false) :
    checkEvent e c ps = false := igf_rejects e c ps hw hi

/-- **the rule**: otherwise pass ⇔ some path is not matched by an ignore pattern and is wanted -/
theorem the_rule (e : Env) (c : Cfg) (ps : List PTag) (hw : ps.any e.whitelisted = false) (hi : e.igfPass ps = true) (hne : ps ≠ []) :
    checkEvent e c ps = true ↔ ∃ p ∈ ps, verdict e.mt c.ignores p ≠ .ignore ∧ wanted e c p = true := check_iff e c ps hw hi hne

/-- wanted ⇔ (filters configured and one matches, directly or through the `origin//rel` re-match inside the origin) or
    (a non-directory with a listed extension); everything is wanted when neither filters nor extensions are configured -/
theorem wanted_means (e : Env) (c : Cfg) (p : PTag) (h : numFilters c > 0 ∨ c.exts ≠ []) :
    wanted e c p = true ↔
      (numFilters c > 0 ∧ (verdict e.mt c.filters p = .ignore ∨ (e.inOrigin p = true ∧ verdict e.mtRebased c.filters p = .ignore))) ∨
      (p.isDir = false ∧ ∃ x, e.ext p = some x ∧ x ∈ c.exts) := wanted_iff e c p h

/-- **ignore precedence**: if every path is matched by an ignore pattern the event is rejected, whatever the filters say -/
theorem ignores_beat_filters (e : Env) (c : Cfg) (ps : List PTag) (hw : ps.any e.whitelisted = false)
    (h : ∀ p ∈ ps, verdict e.mt c.ignores p = .ignore) (hne : ps ≠ []) : checkEvent e c ps = false := ignore_precedence e c ps hw h hne

/-- **monotone**: inserting a non-negated ignore pattern at any position can only turn a pass into a rejection -/
theorem adding_an_ignore_only_rejects_more (e : Env) (c : Cfg) (a b : List G) (g : G) (hg : g.neg = false) (hc : c.ignores = a ++ b)
    (ps : List PTag) (h : checkEvent e { c with ignores := a ++ g :: b } ps = true) : checkEvent e c ps = true :=
  ignore_monotone e c a b g hg hc ps h

theorem empty_configuration_passes_everything (e : Env) (ps : List PTag) (hi : e.igfPass ps = true) :
    checkEvent e ⟨[], [], []⟩ ps = true := empty_passes e ps hi

/-- the same clauses for the concrete function the stream validates -/
theorem concrete_instances (g : Sp.GS.GF) :
    Sp.GS.checkEventC g [] = true ∧
    (∀ ps p, p ∈ ps → g.whitelist.any (fun w => Sp.IF.splitComps w == Sp.IF.splitComps p.path) = true → Sp.GS.checkEventC g ps = true) :=
  ⟨Sp.GS.c11_no_paths g, fun ps p hp hw => Sp.GS.c11_whitelisted g ps p hp hw⟩

/-! ### "follow the documented glob rules": what the lines of the property's grammar mean

The theorems above take the matcher as a parameter. The concrete matcher the stream validates against the real `ignore` crate
(`Sp.Glob`) is characterised exactly on the grammar the property names, for EVERY name, extension and candidate path (`Clean`
text: no glob syntax, slash or blank; `[!]` and a trailing `/` set the negation / directories-only flags and nothing else). -/
open Sp.Glob in
/-- `name` (also `!name`, `name/`): applies at every depth — matches exactly the relative paths whose last component is `name` -/
theorem plain_name_rule (neg onlyDir : Bool) (n : List Char) (h : Clean n) :
    (∃ g, addLine ((if neg then ['!'] else []) ++ n ++ (if onlyDir then ['/'] else [])) = some (some g) ∧
      g.isWhitelist = neg ∧ g.isOnlyDir = onlyDir ∧ ∀ s, mtch g.toks s = true ↔ s = n ∨ ∃ pre, s = pre ++ '/' :: n) :=
  ⟨_, addLine_name neg onlyDir n h, rfl, rfl, fun s => name_matches n s h⟩

open Sp.Glob in
/-- `*.ext`: applies at every depth — matches exactly the paths whose last component is a slash-free stem followed by `.ext` -/
theorem extension_rule (neg onlyDir : Bool) (e : List Char) (h : Clean e) :
    (∃ g, addLine ((if neg then ['!'] else []) ++ '*' :: '.' :: e ++ (if onlyDir then ['/'] else [])) = some (some g) ∧
      g.isWhitelist = neg ∧ g.isOnlyDir = onlyDir ∧
      ∀ s, mtch g.toks s = true ↔ ∃ pre stem, (s = stem ++ '.' :: e ∨ s = pre ++ '/' :: (stem ++ '.' :: e)) ∧ ∀ c ∈ stem, c ≠ '/') :=
  ⟨_, addLine_star_ext neg onlyDir e h, rfl, rfl, star_ext_matches e⟩

open Sp.Glob in
/-- `/rooted`: anchored at the directory of the ignore file — matches that relative path only -/
theorem rooted_rule (neg onlyDir : Bool) (n : List Char) (h : Clean n) :
    (∃ g, addLine ((if neg then ['!'] else []) ++ '/' :: n ++ (if onlyDir then ['/'] else [])) = some (some g) ∧
      g.isWhitelist = neg ∧ g.isOnlyDir = onlyDir ∧ ∀ s, mtch g.toks s = true ↔ s = n) :=
  ⟨_, addLine_rooted neg onlyDir n h, rfl, rfl, fun s => rooted_matches n s h⟩

open Sp.Glob in
/-- `a/b`: a slash inside anchors too — matches the relative path `a/b` only (not `x/a/b`) -/
theorem inner_slash_rule (neg onlyDir : Bool) (a b : List Char) (ha : Clean a) (hb : Clean b) :
    (∃ g, addLine ((if neg then ['!'] else []) ++ (a ++ '/' :: b) ++ (if onlyDir then ['/'] else [])) = some (some g) ∧
      g.isWhitelist = neg ∧ g.isOnlyDir = onlyDir ∧ ∀ s, mtchToks g.toks s = true ↔ s = a ++ '/' :: b) :=
  ⟨_, addLine_inner_slash neg onlyDir a b ha hb, rfl, rfl, lits_iff _⟩

open Sp.Glob in
/-- `x/**`: matches exactly the paths strictly below `x` -/
theorem dir_contents_rule (neg : Bool) (x : List Char) (h : Clean x) :
    (∃ g, addLine ((if neg then ['!'] else []) ++ (x ++ ['/', '*', '*'])) = some (some g) ∧
      g.isWhitelist = neg ∧ ∀ s, mtch g.toks s = true ↔ ∃ rest, s = x ++ '/' :: rest) :=
  ⟨_, addLine_dir_contents neg x h, rfl, fun s => dir_contents_matches x s h⟩

open Sp.Glob in
/-- … and at the level of paths (`matched_path_or_any_parents`): an ignore line `*.ext` rejects exactly the paths that have a
    component ending in `.ext` — the file `a/b.ext`, and everything below a directory `x.ext/` -/
theorem extension_line_rejects_by_component (e orig root path : List Char) (he : Clean e) (cs : List (List Char)) (hne : cs ≠ [])
    (hcs : ∀ x ∈ cs, Comp x) (hstrip : strip root path = join cs) (isDir : Bool) :
    matchedOrParents root [extGlob orig e] path isDir ≠ .none ↔ ∃ c ∈ cs, ∃ stem, c = stem ++ '.' :: e :=
  ext_ignores_iff e orig root path he cs hne hcs hstrip isDir

open Sp.Glob in
/-- `dir/` at the level of paths: a directory called `name` and everything below a directory called `name` — never a FILE
    called `name` -/
theorem directory_line_rejects_directories_only (n orig root path : List Char) (hn : Clean n) (cs : List (List Char)) (hne : cs ≠ [])
    (hcs : ∀ x ∈ cs, Comp x) (hstrip : strip root path = join cs) (isDir : Bool) :
    matchedOrParents root [dirGlob orig n] path isDir ≠ .none ↔ (isDir = true ∧ ∃ h : cs ≠ [], cs.getLast h = n) ∨ ∃ c ∈ cs.dropLast, c = n :=
  dir_line_ignores_iff n orig root path hn cs hne hcs hstrip isDir

/-- non-vacuity: `Clean` text exists -/
example : Sp.Glob.Clean "target".toList ∧ Sp.Glob.Clean "rs".toList :=
  ⟨⟨by decide, by decide, by decide⟩, ⟨by decide, by decide, by decide⟩⟩

end Props.C11
