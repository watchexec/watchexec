import Wx.Pure.SignalsCase
import Wx.Pure.SignalsThm
/-! # C19 — Signal names and exit statuses convert consistently

> Every signal's display form parses back to the same OS signal; parsing is case-insensitive and agrees between the
> short name, the SIG-prefixed name and the number (apart from the documented Windows control names such as STOP, which
> take precedence over the unix short name), and the first-class signals map to their POSIX numbers. Converting an OS
> exit status to the portable process-end form preserves success, the exit code and the terminating signal.

Tables (`to_nix`, `from_nix`, `From<i32>`, `Display`, control names) are regenerated from crates/signals/src/lib.rs on
every run; the platform's number↔name table is dumped from the linked `nix` crate. The tables are swept completely (by kernel
evaluation); exit codes 0–255 and terminating signals 1–64 are decoded by arithmetic (`Wp.fromStatus_exited`, `Wp.fromStatus_signaled`, which covers every
signal below 127). -/
namespace Props.C19
open Wp Wp.Gen

/-- display ∘ parse keeps the OS signal — every platform signal, in every constructor form -/
theorem display_then_parse : ∀ s ∈ allSignals, (parse (display s)).bind toNix = toNix s := display_parse

/-- **case-insensitive — every input string**: parsing sees its input only through the upper-cased form -/
theorem case_insensitive (s s' : Str) (h : toUpper s = toUpper s') : parse s = parse s' := parse_case_insensitive s s' h

/-- number, SIG-name and short name agree (upper, lower, capitalised — and by `case_insensitive` every other letter
    case), except where a control name takes over -/
theorem spellings (p) (hp : p ∈ nixTable) : ∀ sp ∈ Wp.spellings p, toUpper sp ∈ controlNames ∨ (parse sp).bind toNix = some p.1 :=
  spellings_agree p hp

/-- the only spellings a control name takes over are `STOP` (the documented exception) and `KILL`/`SIGKILL` (which mean the same signal anyway) -/
theorem documented_exceptions (p) (hp : p ∈ nixTable) : ∀ sp ∈ Wp.spellings p, toUpper sp ∈ controlNames →
    toUpper sp = "STOP".toList ∨ toUpper sp = "SIGKILL".toList ∨ toUpper sp = "KILL".toList := only_stop_is_shadowed p hp

/-- first-class signals have their POSIX numbers -/
theorem posix : toNix .hangup = some 1 ∧ toNix .interrupt = some 2 ∧ toNix .quit = some 3 ∧ toNix .forceStop = some 9 ∧
    toNix .user1 = some 10 ∧ toNix .user2 = some 12 ∧ toNix .terminate = some 15 := posix_numbers

/-- `From<i32>` and `from_nix` agree with the platform table on every valid number -/
theorem numbers : ∀ n ∈ validNums, toNix (fromI32 n) = some n ∧ toNix (fromNix n) = some n := fromI32_fromNix

/-- exit codes 0–255: success iff 0, otherwise the code -/
theorem exit_code_preserved : ∀ c ∈ List.range 256, fromStatus (c * 256) = if c = 0 then .success else .exitError c := exit_codes

/-- terminating signals 1–64, with and without the core-dump bit -/
theorem terminating_signal_preserved : ∀ g ∈ List.range 65, g ≠ 0 → ∀ core ∈ [0, 128], fromStatus (g + core) = .exitSignal (fromI32 g) := term_signals

end Props.C19
