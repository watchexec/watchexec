import Wx.Job.C06
import Wx.Job.C07
import Wx.Job.Api
import Wx.Job.C06w
/-! # C06 — Graceful stop: signal first, no kill before the grace period, kill at expiry

> A graceful stop or restart delivers the requested signal to the running process immediately, never force-kills it
> before the grace period has elapsed, and force-kills and reaps it when the grace period elapses if it is still
> running. Until the process has ended later normal-priority controls are held back, and in a graceful restart the
> replacement starts only after the old process has ended and starts exactly once.

Time is virtual (`St.now`); "immediately" / "at expiry" are statements about the step that handles the control / the
first `recv` at or after the deadline (eager scheduler = the paused-clock runtime of the harness). -/
namespace Props.C06
open Jm

/-- **signal first**: handling a graceful stop of a running job logs the signal at `now`, arms the timer for exactly
    `now + grace` with the control's flag, and does nothing else (no kill, state stays running) -/
theorem signal_first_stop (s : St) (c : ChildId) (sig : Sig) (grace : Nat) (f : FlagId) (h : s.cs = .running c) :
    handle s ⟨.gracefulStop sig grace, f⟩ = { s.signalChild c sig with timer := some ⟨s.now + grace, f, false⟩ } ∧
    (s.signalChild c sig).log = (s.now, .signal c sig) :: s.log :=
  ⟨graceful_stop_step s c sig grace f h, signalChild_log s c sig⟩

theorem signal_first_restart (s : St) (c : ChildId) (sig : Sig) (grace : Nat) (f : FlagId) (h : s.cs = .running c) :
    handle s ⟨.tryGracefulRestart sig grace, f⟩ =
      { s.signalChild c sig with timer := some ⟨s.now + grace, f, true⟩, onEndRestart := some f } :=
  graceful_restart_step s c sig grace f h

/-- **no kill before the grace period has elapsed**: while `now < until` the timer's kill message is not a candidate of `recv` -/
theorem no_early_kill (s : St) (t : Timer) (hf7 : s.cfg.f7 = true) (ht : s.timer = some t) (he : s.now < t.until_) :
    Src.timer ∉ recvCandidates s := timer_not_early s t hf7 ht he

/-- **held back**: while a grace timer is armed no normal-priority control is dequeued -/
theorem normal_controls_held_back (s : St) (t : Timer) (hf7 : s.cfg.f7 = true) (ht : s.timer = some t) :
    Src.normal ∉ recvCandidates s := held_back s t hf7 ht

/-- **kill at expiry**: at or after the deadline the timer's message is the ONLY candidate, and for a graceful stop it
    is a plain stop: kill, reap (status 9), `finished`, timer cleared, flag raised — in that turn -/
theorem kill_at_expiry (s : St) (t : Timer) (c : ChildId) (ch : Child) (hf7 : s.cfg.f7 = true) (ht : s.timer = some t)
    (he : t.until_ ≤ s.now) (hr : t.isRestart = false) (hc : s.cs = .running c) (hch : s.child? c = some ch) :
    recvCandidates s = [.timer] ∧
    ∃ s1, takeFrom s .timer = some (⟨.stop, t.done⟩, s1) ∧ s1.timer = none ∧
      (handle s1 ⟨.stop, t.done⟩).cs = .finished 9 ∧ (handle s1 ⟨.stop, t.done⟩).isRaised t.done = true :=
  ⟨timer_fires s t hf7 ht he, expiry_kills s t c ch ht hr hc hch⟩

/-- **restart exactly once**: the restart slot exists exactly while its restart timer is armed (every history of
    API-shaped sends), and the expiry continuation empties it — so the natural-exit path and the expiry path cannot both respawn -/
theorem restart_once (behs : List Beh) (ops : List Op) (hok : ∀ o ∈ ops, OpOk o) :
    (∀ y ∈ runOps { st := { cfg := Fixes.all, behs := behs, hookSet := true, parked := true } } ops, Coupled y.st) ∧
    (∀ (s : St) (f : FlagId), s.cfg.f4 = true → (handle s ⟨.continueTGR, f⟩).onEndRestart = none) :=
  ⟨fun y hy => (c07_noLost behs ops hok y hy).2, fun s f h => continue_clears s f h⟩

/-- restart-with-signal is GracefulStop then Start in ONE send (regenerated API table): Start sits behind the graceful
    stop in the normal queue and is held back until the old process has ended -/
theorem graceful_restart_api : ∀ g ms, apiOf (.restartWithSignal g ms) = (.normal, [.gracefulStop g ms, .start]) := fun _ _ => rfl

/-- the pair of kernel-checked runs around F4: three spawns before the repair, two after -/
theorem extra_respawn_before_repair_only :
    ((runOps { st := { behs := [.ignores, .exitsAfter 50, .ignores], hookSet := false, parked := true } }
      [.send .normal [.start] false, .settle, .send .normal [.tryGracefulRestart 15 10] false, .advance 100]).map (·.st.spawnCount) = [3]) ∧
    ((runOps { st := { cfg := Fixes.all, behs := [.ignores, .exitsAfter 50, .ignores], hookSet := false, parked := true } }
      [.send .normal [.start] false, .settle, .send .normal [.tryGracefulRestart 15 10] false, .advance 100]).map (·.st.spawnCount) = [2]) :=
  ⟨extra_respawn_today, no_extra_respawn_fixed⟩

/-- **no kill before the grace period, over whole runs**: in every reachable state of every history of graceful
    controls (any priority, any grace periods ≥ `G`, any child behaviour, any timing, every race resolution) each kill
    in the log comes at least `G` after a signal to the same child -/
theorem never_killed_early (G : Nat) (behs : List Beh) (ops : List Op) (hops : GentleOps G ops) :
    let x0 : Sim := { st := { cfg := Fixes.all, behs := behs, hookSet := true, parked := true } }
    ∀ y ∈ runOps x0 ops, ∀ t c, (t, Obs.kill c) ∈ y.st.log →
      ∃ t0 sig, (t0, Obs.signal c sig) ∈ y.st.log ∧ t0 + G ≤ t := c06_no_early_kill G behs ops hops

/-- an armed grace timer always belongs to the running child and never expires earlier than `G` after its signal -/
theorem timer_never_short (G : Nat) (behs : List Beh) (ops : List Op) (hops : GentleOps G ops) :
    let x0 : Sim := { st := { cfg := Fixes.all, behs := behs, hookSet := true, parked := true } }
    ∀ y ∈ runOps x0 ops, ∀ tm, y.st.timer = some tm →
      ∃ c t0 sig, y.st.cs = .running c ∧ (t0, Obs.signal c sig) ∈ y.st.log ∧ t0 + G ≤ tm.until_ := c06_timer_not_short G behs ops hops

/-- what a script must look like for the two theorems above: nothing forceful, grace ≥ G (here G = 50) -/
example : GentleOps 50 [.send .normal [.start] false, .settle, .send .high [.gracefulStop 15 50, .start] true, .advance 60,
    .send .normal [.tryGracefulRestart 1 70, .signal 10, .nextEnding] false, .dropHandles] := by
  intro o ho
  simp only [List.mem_cons, List.mem_nil_iff, or_false] at ho
  rcases ho with rfl | rfl | rfl | rfl | rfl | rfl <;> simp [OpOkFor2, Gentle]

end Props.C06
