import Wx.Job.FaultsThm
import Wx.Job.C10
import Wx.Job.C10c
import Wx.Job.ApiThm
/-! # C10 — Controls run in send order within a priority; urgent before high before normal

> Controls sent with the same priority are executed in the order they were sent, each exactly once, so awaiting the last
> ticket implies every earlier control has run. Pending urgent controls run before pending high-priority ones and those
> before normal ones, which is what lets delete-now and wait-for-end overtake queued work; nothing else is reordered.

`sent` / `taken` are ghost logs of the flags enqueued per queue and of the flags `recv` has returned. -/
namespace Props.C10
open Jm

/-- **FIFO, exactly once** (every fix configuration, every history): per queue, what `recv` has returned followed by what
    is still queued is exactly what was sent — nothing lost, duplicated or reordered -/
theorem fifo (cfg : Fixes) (behs : List Beh) (ops : List Op) :
    ∀ y ∈ runOps { st := { cfg := cfg, behs := behs, hookSet := true, parked := true } } ops, Fifo y.st := c10_fifo cfg behs ops

/-- **priority** (biased receive): a normal control is returned only with no grace timer armed and nothing urgent or
    high pending; a high one only with nothing urgent pending; the timer's own message only once its period is over -/
theorem priority {s : St} (hf7 : s.cfg.f7 = true) :
    (Src.normal ∈ recvCandidates s → s.timer = none ∧ s.urgent = [] ∧ s.high = []) ∧
    (Src.high ∈ recvCandidates s → s.urgent = []) ∧
    (Src.timer ∈ recvCandidates s → ∃ t, s.timer = some t ∧ t.until_ ≤ s.now) :=
  ⟨fun h => c10_priority hf7 h, fun h => c10_priority hf7 h, fun h => c10_priority hf7 h⟩

/-- **awaiting the last ticket implies the earlier controls have run**: a raised flag (other than the job's `gone`)
    belongs to a control `recv` has already returned, and what has been returned from a queue is a prefix of what was sent to it -/
theorem raised_means_taken (cfg : Fixes) (behs : List Beh) (ops : List Op) :
    ∀ y ∈ runOps { st := { cfg := cfg, behs := behs, hookSet := true, parked := true } } ops,
      (∀ f, y.st.isRaised f = true → f = 0 ∨ f ∈ y.st.taken.map (·.2)) ∧
      (∀ q, q ≠ Src.timer → proj y.st.taken q <+: proj y.st.sent q) := c10_ran cfg behs ops

/-- the priorities of the public API are the ones of the source (regenerated table): delete-now urgent, wait-for-end high -/
theorem api_priorities : (apiOf .deleteNow).1 = .urgent ∧ (apiOf .toWait).1 = .high ∧ (apiOf .delete).1 = .normal ∧
    lookupApi "delete_now" = some ("Urgent", ["Stop", "Delete"]) ∧ lookupApi "to_wait" = some ("High", ["NextEnding"]) :=
  ⟨rfl, rfl, rfl, api_generated .deleteNow, api_generated .toWait⟩

/-- the witness for the unrepaired code (F7): with an unbiased select a normal control is a candidate while an urgent one is pending -/
theorem unbiased_select_violates : ∃ s : St, s.cfg = Fixes.none ∧ s.urgent ≠ [] ∧ Src.normal ∈ recvCandidates s := c10_priority_fails_today

/-- **when kill / signal / wait calls on the child fail** (the fault-aware task `Jf`, Wx/Job/Faults.lean): a failed call
    ends its control and reorders nothing — per queue, taken ++ still queued = sent, in send order, for every fault script -/
theorem order_kept_under_faults (cfg : Fixes) (behs : List Beh) (faults : List Jf.Fault) (ops : List Op) :
    ∀ z ∈ Jf.runOpsF (Jf.initialF cfg behs faults) ops, ∀ q, q ≠ Src.timer →
      proj z.x.st.taken q ++ z.x.st.qv.ids q = proj z.x.st.sent q := fun z hz => Jf.c10_faults cfg behs faults ops z hz

end Props.C10
