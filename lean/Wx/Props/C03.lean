import Wx.Glob.IgnoreFilterC
import Wx.Glob.GlobPath
/-! # C03 — Ignore files apply only inside their directory; the nearest match wins

> A path is ignored exactly when git-style evaluation of the ignore files of its ancestor directories, nearest directory
> first, then farther ones, then global files, yields an ignore. An ignore file never changes the verdict for a path
> outside the directory it applies in, even when that directory's name is a textual prefix of the path's directory
> (test/ versus tests/), and a negated pattern re-includes only paths inside its own directory.

`Sp.IF.Filter` is the string-level model of `IgnoreFilter` (nodes keyed by directory display strings, the trie lookup =
longest key that is a *string* prefix). `matchFix` is `match_path` as it is in /repo; `specMatchC` evaluates the
nodes of the *component-wise* ancestors of the path, nearest first (`Sp.C03.spec`). The per-node verdict function is a
parameter of the core theorems, so they do not depend on the glob matcher model. -/
namespace Props.C03
open Sp.IF Sp.C03 Sp.Pfx

/-- **refinement**: `match_path` is nearest-component-ancestor-first evaluation — every filter, path and file type -/
theorem match_is_spec (f : Filter) (path : Str) (isDir : Bool) : f.matchFix path isDir = f.specMatchC path isDir :=
  matchPathC_eq_spec f path isDir

/-- **scoping**: two filters with the same origin whose nodes agree on the component-wise ancestors of `path` give the
    same verdict for `path` — whatever other nodes (sibling directories, `test/` next to `tests/`, negations included)
    one of them has and the other has not -/
theorem only_ancestors_matter (f f' : Filter) (path : Str) (isDir : Bool) (ho : f.origin = f'.origin)
    (hk : ∀ k, k <+: splitComps path → (k ∈ f.keys ↔ k ∈ f'.keys))
    (hv : ∀ k, k <+: splitComps path → f.ev (compPrefix f.origin path) path isDir k = f'.ev (compPrefix f.origin path) path isDir k) :
    f.matchFix path isDir = f'.matchFix path isDir := by
  rw [match_is_spec, match_is_spec]
  unfold Filter.specMatchC
  rw [← ho]
  exact congrArg (·.getD .none) (specFrom_congr hk hv _)

/-- the core of the refinement, for any key set, any probe and ANY per-node verdict function: the lookup loop (longest
    string prefix, component check, hop to the parent) equals evaluation over the component ancestors, nearest first -/
theorem loop_is_spec {V : Type} (keys : List Key) (ev : Key → Option V) (p : CPath) (hk : ∀ k ∈ keys, okPath k) (hp : okPath p) :
    go keys ev p (p.length + 1) (body p) = spec keys ev p := go_eq_spec keys ev p hk hp

/-- a directory's own ignore files are never consulted for verdicts about paths that do not lie below it: restricting
    the key set to the proper ancestors of `d` changes nothing for `d` (what discovery, C14, relies on) -/
theorem proper_ancestors_suffice {V : Type} (L : List Key) (ev : Key → Option V) (d : CPath) (hd : d ∉ L) :
    spec L ev d = spec (L.filter (fun a => a.isPrefixOf d && a != d)) ev d := scoping_law L ev d hd

/-- the string-prefix / component-prefix gap, exactly: if the display string of `k` is a string prefix of that of `s`,
    then `k` and `s` agree up to `k`'s last component, which is a string prefix of the corresponding component of `s` -/
theorem prefix_gap {k s : CPath} (hk : okPath k) (hs : okPath s) (hne : k ≠ []) (h : body k <+: body s) :
    ∃ k0 c c' rest, k = k0 ++ [c] ∧ s = k0 ++ c' :: rest ∧ c <+: c' := body_prefix_shape hk hs hne h

/-- witness: the loop before the repair of F12 (no component check) let `/o/test` decide `/o/tests/f` -/
theorem old_loop_leaked :
    let keys : List Key := [[], ["o".toList], ["o".toList, "test".toList]]
    let ev : Key → Option Nat := fun k => if k = ["o".toList, "test".toList] then some 1 else if k = ["o".toList] then some 0 else none
    let p : CPath := ["o".toList, "tests".toList, "f".toList]
    goOld keys ev (p.length + 1) (body p) = some 1 ∧ spec keys ev p = some 0 := goOld_ne_spec

/-! ### what one ignore file does with a slash-free line

The verdict function `ev` above is a parameter. For the concrete matcher (`Sp.Glob`, tied to the real `ignore` crate by the
glob stream) the most common kind of line is characterised completely: -/
open Sp.Glob in
/-- the line `name` in an ignore file ignores exactly the paths below the file's directory that HAVE a component `name` —
    the path itself or any directory above it (`matched_path_or_any_parents`) — for every clean name, every relative
    path (given by its components), file or directory; `tests/x` is not touched by `test` -/
theorem slash_free_line_ignores_its_subtrees (n orig root path : List Char) (hn : Clean n) (cs : List (List Char)) (hne : cs ≠ [])
    (hcs : ∀ x ∈ cs, Comp x) (hstrip : strip root path = join cs) (isDir : Bool) :
    matchedOrParents root [nameGlob orig n] path isDir ≠ .none ↔ ∃ c ∈ cs, c = n :=
  name_ignores_iff n orig root path hn cs hne hcs hstrip isDir

open Sp.Glob in
/-- … and `nameGlob` is what `add_line` makes of that line -/
theorem slash_free_line_is_nameGlob (n : List Char) (hn : Clean n) : addLine n = some (some (nameGlob n n)) := by
  simpa [nameGlob] using addLine_name false false n hn

end Props.C03
