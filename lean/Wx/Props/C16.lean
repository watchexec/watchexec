import Wx.Pure.SerdeTagThm
/-! # C16 — Events survive a JSON round trip and the format is stable

> Serialising any event to JSON and parsing it back yields an equal event, for every tag kind, every filesystem event
> kind, every exit disposition and code, every signal and arbitrary metadata, and the serialised form uses the documented
> field names and values. A tag object of a known kind whose fields are missing or contradictory parses to an explicit
> unknown tag rather than failing or being mistaken for another kind.

`encode` / `decode` model `From<Tag> for SerdeTag` / `From<SerdeTag> for Tag`; the 40-row string table of the `full`
field (the 41st kind, `Other`, is the fallback arm) is regenerated from crates/events/src/serde_formats.rs on every run. The serde/JSON text layer and the field names
are tied by the json stream (byte-level comparison of the real output with the documented names in the driver). -/
namespace Props.C16
open Wp

/-- **round trip, every tag**: any path / file type, all 41 kinds, any source, pid, signal (first-class or any number),
    every disposition with any code allowed by the Rust types (`Tag.wf`: NonZeroI64 / NonZeroI32) -/
theorem round_trip (t : Tag) (h : t.wf) : decode (encode t) = t := decode_encode t h

/-- all 41 kinds survive print-then-decode, and the table has no row the printer cannot produce -/
theorem kinds_round_trip (k : EventKind) : decodeKind k.dbg = k := kind_roundtrip k
theorem table_rows_printable : ∀ r ∈ Gen.kindTable, r.2.dbg = r.1 := table_rows_are_printed

/-- **totality**: for EVERY field combination — missing, extra, contradictory — the result is a tag of the object's own
    kind or the explicit unknown tag, never another kind; and it always satisfies the Rust types' invariants -/
theorem never_another_kind (v : SerdeTag) : (decode v).kind = v.kind ∨ decode v = .unknown := decode_total v
theorem decoded_is_well_formed (v : SerdeTag) : (decode v).wf := decode_wf v

/-- every event: the whole tag list survives (each tag by `round_trip`) -/
theorem event_tags_round_trip (ts : List Tag) (h : ∀ t ∈ ts, t.wf) : (ts.map encode).map decode = ts := tags_round_trip ts h

end Props.C16
