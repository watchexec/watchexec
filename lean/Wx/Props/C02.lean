import Wx.Glob.ThrottleRun
import Wx.Cli.TimeSpanThm
/-! # C02 — Debounce: one action per window, never before the window has elapsed

> A batch made only of non-urgent events is handed to the action handler no earlier than the configured throttle
> duration after its first event was received, and all accepted events that arrive within that window are in that same
> batch. An urgent event flushes the current batch immediately and is not filtered, and the batch is delivered within a
> bounded delay after the window ends even if rejected events keep arriving.

Every clock reading and every throttle reading is an input of the turn, so the statements hold for every throttle
(zero, changing between or within turns) and every clock. -/
namespace Props.C02
open Sp.Th

/-- **never early** (whole run): every batch without urgent events that the handler ever gets left in a turn whose
    throttle reading had elapsed since `l`, and `l` is the clock reading taken right after that batch's first event was received -/
theorem never_before_the_window_has_elapsed (fuel : Nat) (ts : List Turn) :
    ∀ x ∈ (worker fuel ts).batches, (∀ e ∈ x.1, e.prio ≠ .urgent) →
      (∃ t ∈ ts, t.throttle1 ≤ x.2.1 - x.2.2 ∨ t.throttle2 ≤ x.2.1 - x.2.2) ∧
      (∃ t ∈ ts, ∃ e, t.recv = .got e ∧ x.2.2 = t.clock2 ∧ x.1.head? = some e) := worker_bound fuel ts

/-- **one window, one batch**: the batch a call returns is everything accepted since the call began (so two accepted
    events of one window are never split over two handler calls) -/
theorem one_batch_per_window (s : TS) (ts : List Turn) (b at_ l) (h : (collect s ts).batch = some (b, at_, l)) :
    b = s.set ++ (collect s ts).received.filter accepted ∧ b ≠ [] := collect_conserve s ts b at_ l h

/-- **urgent flushes, unfiltered**: an urgent event returns the pending set plus itself in its own turn and is not shown to the filter -/
theorem urgent_flushes_immediately (s : TS) (t : Turn) (e : Ev) (hr : t.recv = .got e) (hu : e.prio = .urgent)
    (hw : windowOver s t = false) (hc : t.closedAfter = false) :
    (turn s t).batch = some (s.set ++ [e], t.clock2, newLast s t) ∧ (turn s t).filtered = [] ∧ (turn s t).next = none :=
  turn_urgent s t e hr hu hw hc

/-- **bounded delay under rejected traffic**: once the clock reading at the top of an iteration has reached
    `last + throttle` with a non-empty set, THAT iteration returns the set, whatever is waiting in the queue; and a
    rejected event never moves `last` (`Props.C01.rejected_event_affects_nothing_else`), so a stream of rejected events
    can postpone the batch by at most the one `recv` that was in flight when the window ended -/
theorem no_starvation (s : TS) (t : Turn) (hne : s.set ≠ []) (hd : t.throttle1 ≤ t.clock1 - s.last) :
    (turn s t).batch = some (s.set, t.clock1, s.last) ∧ (turn s t).received = [] := turn_window_over s t hne hd

/-- **the configured throttle duration, as the command line gives it**: `--debounce` (and `--poll`) without a unit are MILLISECONDS,
    `--stop-timeout` / `--delay-run` seconds — for every digit string below 2^64 -/
theorem debounce_without_unit_is_milliseconds (ds : List Char) (hne : ds ≠ []) (hd : ds.all Ca.Ts.isDigit = true) (hlt : Ca.Ts.valOf ds < 2 ^ 64) :
    Ca.Ts.parseSpan Ca.Ts.msMult ds = some (Ca.Ts.valOf ds * 1000000) := Ca.Ts.unitless_is_scaled Ca.Ts.msMult ds hne hd hlt

/-- a unit is taken as written whatever the option's default (`500ms`, `2s`, `1min`, …: every unit of the table) -/
theorem a_unit_overrides_the_options_default (mult : Nat) (ds : List Char) (u : String) (ns : Nat) (hne : ds ≠ []) (hd : ds.all Ca.Ts.isDigit = true)
    (hlt : Ca.Ts.valOf ds < 2 ^ 64) (hu : Ca.Ts.unitNs u = some ns) (c : Char) (r : List Char) (hul : u.toList = c :: r) (hc : Ca.Ts.isDigit c = false) :
    Ca.Ts.parseSpan mult (ds ++ u.toList) = some (Ca.Ts.valOf ds * ns) := Ca.Ts.unit_is_respected mult ds u ns hne hd hlt hu c r hul hc

end Props.C02
