import Wx.Job.C04
import Wx.Job.FaultsThm
/-! # C04 — A job never has two live processes at once

> At every moment a job has at most one child process that has been spawned and not yet reaped; a new process is
> spawned for the job only after the previous one has exited or been killed and its exit status has been collected.

Model: `Jm` (Wx/Job/Model.lean, Sim.lean). A *history* is a behaviour script for the children (`behs`), an operation
script (`ops`: API sends at any priority incl. raw controls, virtual-time advances, settles, dropping the handles) and a
resolution of every race (`runOps` returns every admissible final state). `St.live` = ids of children spawned and not reaped. -/
namespace Props.C04
open Jm

def initial (cfg : Fixes) (behs : List Beh) : Sim := { st := { cfg := cfg, behs := behs, hookSet := true, parked := true } }

/-- **at most one live child, and it is the one the task holds** — every fix configuration, every history -/
theorem at_most_one_live (cfg : Fixes) (behs : List Beh) (ops : List Op) :
    ∀ y ∈ runOps (initial cfg behs) ops,
      y.st.live.length ≤ 1 ∧ (∀ c, y.st.cs = .running c → y.st.live = [c]) ∧ ((∀ c, y.st.cs ≠ .running c) → y.st.live = []) :=
  fun y hy => Inv.live (c04 cfg behs ops y hy)

/-- the invariant is inductive over single operations (so it also holds at every intermediate point of a history) -/
theorem step_preserves {x : Sim} (o : Op) (h : Inv x.st) : ∀ y ∈ stepOp x o, Inv y.st := c04_simInv.stepOp o (opOkFor_true o) h

/-- child ids are never reused: a reaped child is never "live" again -/
theorem ids_unique (cfg : Fixes) (behs : List Beh) (ops : List Op) :
    ∀ y ∈ runOps (initial cfg behs) ops, (y.st.children.map (·.id)).Nodup := fun y hy => (c04 cfg behs ops y hy).2.2

/-- non-vacuity: a reachable state in which a child is live -/
example : ((runOps (initial {} [.ignores]) [.send .normal [.start] true, .settle]).map (fun x => x.st.live)) = [[0]] := by decide

/-- **when calls on the child fail**: `Jf` (Wx/Job/Faults.lean) is the task with failing `kill()`, `signal()` and
    `wait()` calls (a fault script says which calls of which child fail). For every fault script, every history and every
    race resolution: at most one live child, and it is the one the task holds — a failed kill or wait never lets the task
    spawn a second process next to one it has not collected -/
theorem at_most_one_live_under_faults (cfg : Fixes) (behs : List Beh) (faults : List Jf.Fault) (ops : List Op) :
    ∀ z ∈ Jf.runOpsF (Jf.initialF cfg behs faults) ops,
      z.x.st.live.length ≤ 1 ∧ (∀ c, z.x.st.cs = .running c → z.x.st.live = [c]) ∧ ((∀ c, z.x.st.cs ≠ .running c) → z.x.st.live = []) :=
  fun z hz => Inv.live (Jf.c04_faults cfg behs faults ops z hz)

/-- without faults the fault-aware task IS the model every other theorem is about: same runs, same states -/
theorem fault_free_is_the_verified_model (cfg : Fixes) (behs : List Beh) (ops : List Op) :
    (Jf.runOpsF (Jf.initialF cfg behs []) ops).map (·.x) = runOps (initial cfg behs) ops := by
  rw [Jf.runOpsF_noFaults ops rfl, List.map_map]
  exact List.map_id _

/-- non-vacuity: a kill that fails leaves the child live and running; the stop's ticket has resolved all the same -/
example : ((Jf.runOpsF (Jf.initialF Fixes.all [.ignores] [{ kill := true }])
      [.send .normal [.start] true, .settle, .send .normal [.stop] true, .settle]).map
        (fun z => (z.x.st.live, z.x.st.log.any (fun e => e.2 == .killFail 0), z.x.st.waiters.all (·.resolved)))) = [([0], true, true)] := by decide

end Props.C04
