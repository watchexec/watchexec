import Wx.Disc.C14
import Wx.Disc.C14wf
import Wx.Disc.C14Inst
/-! # C14 — Ignore-file discovery finds exactly the applicable files and prunes ignored dirs

> Discovery from a project origin returns every non-empty .gitignore, .ignore and .hgignore, plus the origin-level
> VCS-specific files, located in a directory reachable from the origin without entering a directory that the ignore files
> above it ignore or a VCS metadata directory, each tagged with the directory it applies in. It returns nothing from
> inside ignored subtrees or, when explicit watch paths are given, from directories unrelated to them, and the result does
> not depend on directory listing order.

Model `Dw` (Wx/Disc/Walk.lean): the tree is a mutual inductive (`T.node name kids`), the walker `visit` threads ONE growing
list `L` of directories whose ignore files are loaded (judge the directory with `ign L d`, then load it, then its children one
after another — siblings' subtrees included), the specification `sv` judges each directory with its PROPER ANCESTORS only.
The filter is a parameter with a scoping law: for every directory (`Env`), or only for directories not loaded themselves
(`Env'`) — the latter is what C03 proves for the real `match_path` (`Props.C03.proper_ancestors_suffice`). The real
stack-and-skip-list walk is tied to this recursion by the discover stream. -/
namespace Props.C14
open Dw

/-- **walker = specification**: with the node's ancestors loaded, the walker's loaded set is `L` plus exactly the
    directories the specification discovers -/
theorem walker_computes_the_specification (e : Env) (t : T) (L anc : List Dir) (par : Dir) (h : AncOk L anc par) :
    ∀ x, x ∈ visit e L par t ↔ x ∈ L ∨ x ∈ sv e anc par t := visit_spec e t L anc par h

/-- **independent of listing order** — at every depth -/
theorem independent_of_listing_order (e : Env) (t t' : T) (h : TEq t t') (anc : List Dir) (par : Dir) :
    ∀ x, x ∈ sv e anc par t ↔ x ∈ sv e anc par t' := sv_order e t t' h anc par

/-- **sound**: every discovered directory, and every directory between it and the start, is related to the watch list and
    not ignored by its proper ancestors' files — nothing from inside an ignored or unrelated subtree -/
theorem nothing_from_ignored_subtrees (e : Env) (t : T) (anc : List Dir) (par : Dir) (ha : ∀ a, a ∈ anc ↔ a <+: par) :
    ∀ x ∈ sv e anc par t, ∀ y, y <+: x → par.length < y.length →
      ∀ A, (∀ a, a ∈ A ↔ properAnc a y = true) → e.ign A y = false ∧ e.related y = true := sv_sound e t anc par ha

/-- **complete**: every directory of the tree all of whose ancestors (below the start) are related and not ignored is discovered -/
theorem every_applicable_directory_found (e : Env) (t : T) (anc : List Dir) (par : Dir) (ha : ∀ a, a ∈ anc ↔ a <+: par) :
    ∀ x ∈ paths par t,
      (∀ y, y <+: x → par.length < y.length → ∃ A, (∀ a, a ∈ A ↔ properAnc a y = true) ∧ e.ign A y = false ∧ e.related y = true) →
      x ∈ sv e anc par t := sv_complete e t anc par ha

/-- the version the concrete filter satisfies: the scoping law is only required for directories that are not loaded
    themselves (a directory's own files, which may contain `*`, are loaded after it has been judged), on well-formed trees -/
theorem walker_computes_the_specification' (e : Env') (t : T) (L anc : List Dir) (par : Dir) (h : AncOk L anc par) (hw : wf t = true)
    (hf : ∀ x ∈ L, ¬ (par ++ [t.name]) <+: x) : ∀ x, x ∈ visit' e L par t ↔ x ∈ L ∨ x ∈ sv' e anc par t := visit_spec' e t L anc par h hw hf

/-- **C14 ∘ C03**: instantiate the filter with C03's specification of `match_path` (nearest-ancestor-first over the loaded
    directories, `nv k d` = what the files stored in `k` say about `d`): the scoping law is C03's theorem, and the walker
    computes the discovery specification -/
theorem with_the_real_filter_semantics (nv : Dir → Dir → Option Bool) (rel : Dir → Bool) (t : T) (L anc : List Dir) (par : Dir)
    (h : AncOk L anc par) (hw : wf t = true) (hf : ∀ x ∈ L, ¬ (par ++ [t.name]) <+: x) :
    ∀ x, x ∈ visit' (specEnv nv rel) L par t ↔ x ∈ L ∨ x ∈ sv' (specEnv nv rel) anc par t :=
  discovery_with_c03_filter nv rel t L anc par h hw hf

end Props.C14
