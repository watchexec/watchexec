import Wx.Job.C07
import Wx.Job.C07w
import Wx.Job.C10c
import Wx.Job.C06
import Wx.Job.Api
import Wx.Job.C07t
import Wx.Job.FaultsThm
/-! # C07 — Every control completes and every ticket resolves

> Every control sent to a live job is executed exactly once (or skipped as documented) and its ticket resolves no later
> than the completion of that control; for a graceful stop that is no later than the earlier of the process exiting and
> the grace period expiring. When a job ends all outstanding tickets resolve promptly, and this holds for every clone of
> a ticket, for any number of tasks waiting concurrently, and when spawning, signalling or killing fails.

Flags: every control carries a flag; a ticket (a *waiter*) resolves when its control's flag or the job's `gone` flag
(flag 0) is raised. `issued` is the ghost list of every flag ever handed out; `pending` = flags of queued messages;
`held` = flags kept by the grace timer, the wait-for-end list and the restart slot. -/
namespace Props.C07
open Jm

def initial (cfg : Fixes) (behs : List Beh) : Sim := { st := { cfg := cfg, behs := behs, hookSet := true, parked := true } }

/-- every call of the public API sends API-shaped controls, so API scripts satisfy the hypothesis of `no_flag_lost` -/
theorem api_ops_ok (c : ApiCall) (aw : Bool) : OpOk (.send (apiOf c).1 (apiOf c).2 aw) := by
  cases c <;> simp [OpOk, apiOf, ShapeOk]

/-- **no flag is ever lost** (repaired code, API-shaped sends, every history, spawn failures included): every flag ever
    issued is still queued, or already raised, or held by the timer / wait-for-end list / restart slot — and the restart
    slot lives exactly as long as its restart timer -/
theorem no_flag_lost (behs : List Beh) (ops : List Op) (hok : ∀ o ∈ ops, OpOk o) :
    ∀ y ∈ runOps (initial Fixes.all behs) ops,
      (∀ f ∈ y.st.issued, f ∈ y.st.pending ∨ y.st.isRaised f = true ∨ f ∈ y.st.held) ∧ Coupled y.st :=
  fun y hy => ⟨noLost_iff.1 (c07_noLost behs ops hok y hy).1, (c07_noLost behs ops hok y hy).2⟩

/-- **a held flag is released at the grace deadline**: at expiry the timer's message is the only candidate of `recv`,
    and for a graceful stop it is a plain stop that kills, reaps, and raises the control's flag -/
theorem released_at_expiry (s : St) (t : Timer) (c : ChildId) (ch : Child) (hf7 : s.cfg.f7 = true) (ht : s.timer = some t)
    (he : t.until_ ≤ s.now) (hr : t.isRestart = false) (hc : s.cs = .running c) (hch : s.child? c = some ch) :
    recvCandidates s = [.timer] ∧
    ∃ s1, takeFrom s .timer = some (⟨.stop, t.done⟩, s1) ∧ (handle s1 ⟨.stop, t.done⟩).isRaised t.done = true :=
  ⟨timer_fires s t hf7 ht he, by
    obtain ⟨s1, h1, _, _, h4⟩ := expiry_kills s t c ch ht hr hc hch
    exact ⟨s1, h1, h4⟩⟩

/-- **tickets** (waker list, any number of waiters and clones, every history): a ticket whose control's flag is raised,
    or whose job is gone, has resolved -/
theorem tickets_resolve (cfg : Fixes) (h35 : cfg.f35 = true) (behs : List Beh) (ops : List Op) :
    ∀ y ∈ runOps (initial cfg behs) ops, ∀ wt ∈ y.st.waiters,
      (y.st.isRaised wt.done = true ∨ y.st.isRaised 0 = true) → wt.resolved = true := c07_tickets cfg h35 behs ops

/-- non-vacuity for "every clone of a ticket, any number of tasks waiting": three tasks await clones of one wait-for-end
    ticket (`Op.clone`); all of them resolve when the process ends, none before -/
example : ((runOps (initial Fixes.all [.exitsAfter 30])
      [.send .normal [.start] true, .settle, .send .high [.nextEnding] true, .clone 1, .clone 1, .advance 10]).map
        (fun y => (y.st.waiters.length, (y.st.waiters.filter (·.resolved)).length))) = [(4, 1)] ∧
    ((runOps (initial Fixes.all [.exitsAfter 30])
      [.send .normal [.start] true, .settle, .send .high [.nextEnding] true, .clone 1, .clone 1, .advance 50]).map
        (fun y => (y.st.waiters.length, (y.st.waiters.filter (·.resolved)).length))) = [(4, 4)] := by decide

/-- **exactly once**: a raised flag belongs to a control that `recv` has returned, and each queue is consumed as a prefix of what was sent -/
theorem executed_once (cfg : Fixes) (behs : List Beh) (ops : List Op) :
    ∀ y ∈ runOps (initial cfg behs) ops,
      (∀ f, y.st.isRaised f = true → f = 0 ∨ f ∈ y.st.taken.map (·.2)) ∧ (∀ q, q ≠ Src.timer → proj y.st.taken q <+: proj y.st.sent q) :=
  c10_ran cfg behs ops

/-- kernel-checked witnesses for the unrepaired code: the graceful-stop flag is dropped when the child exits in
    grace (F1), and with a single waker slot a second waiter on `gone` makes the first one hang (F5) -/
theorem violated_before_repairs :
    (∃ y ∈ runOps (initial Fixes.none [.exitsAfterSignal 30])
        [.send .normal [.start] true, .settle, .advance 10, .send .normal [.gracefulStop 15 100] true, .advance 300], ¬ NoLost y.st) ∧
    (∃ y ∈ runOps (initial {} [.ignores]) [.send .high [.nextEnding] true, .send .normal [.delete] true, .settle],
        ∃ wt ∈ y.st.waiters, y.st.isRaised 0 = true ∧ wt.resolved = false) :=
  ⟨c07_noLost_fails_today, c07_tickets_fails_today⟩

/-- **no later than the grace period expiring**: in every reachable state of a live job, each issued flag is still queued,
    already raised, waiting for the process to end (wait-for-end), or held by a grace timer whose deadline has NOT passed.
    So the ticket of a graceful stop / restart that has been taken from the queue is resolved whenever the clock shows more
    than its deadline; and when the process exits earlier the wait branch raises it (`no_flag_lost`, repairs F1/F2). -/
theorem graceful_ticket_by_deadline (behs : List Beh) (ops : List Op) (hok : ∀ o ∈ ops, OpOk o) :
    ∀ y ∈ runOps { st := { cfg := Fixes.all, behs := behs, hookSet := true, parked := true } } ops,
      y.st.alive = true → ∀ f ∈ y.st.issued,
        f ∈ y.st.pending ∨ y.st.isRaised f = true ∨ f ∈ y.st.onEnd ∨
        ∃ tm, y.st.timer = some tm ∧ tm.done = f ∧ y.st.now ≤ tm.until_ := c07_ticket_by_deadline behs ops hok

/-- an armed grace timer never expires unnoticed while the job task is alive -/
theorem grace_timer_never_overdue (behs : List Beh) (ops : List Op) :
    ∀ y ∈ runOps { st := { cfg := Fixes.all, behs := behs, hookSet := true, parked := true } } ops,
      y.st.alive = true → ∀ tm, y.st.timer = some tm → y.st.now ≤ tm.until_ := c07_timer_fresh behs ops

/-- **when signalling or killing fails** (and when `wait()` fails): in the fault-aware task `Jf`
    (Wx/Job/Faults.lean), for every fault script, every history of API-shaped sends and every race resolution, no flag is
    lost — each one is queued, raised, or held by the timer / wait-for-end list / restart slot -/
theorem no_flag_lost_under_faults (behs : List Beh) (faults : List Jf.Fault) (ops : List Op) (hok : ∀ o ∈ ops, OpOk o) :
    ∀ z ∈ Jf.runOpsF (Jf.initialF Fixes.all behs faults) ops,
      (∀ f ∈ z.x.st.issued, f ∈ z.x.st.pending ∨ z.x.st.isRaised f = true ∨ f ∈ z.x.st.held) ∧ Coupled z.x.st :=
  fun z hz => ⟨noLost_iff.1 (Jf.c07_faults behs faults ops hok z hz).1, (Jf.c07_faults behs faults ops hok z hz).2⟩

/-- a control whose kill / signal / wait call fails is over at once: its flag is raised in the very step that handles it -/
theorem failed_call_raises_flag (x : Jf.FSt) (m : Msg) (o : Obs) : (Jf.failCtl x m o).st.isRaised m.done = true :=
  Jf.failCtl_raises x m o

/-- non-vacuity: signal() fails on a graceful stop — no timer is armed, the ticket resolves at once, nothing is held -/
example : ((Jf.runOpsF (Jf.initialF Fixes.all [.ignores] [{ signal := true }])
      [.send .normal [.start] true, .settle, .send .normal [.gracefulStop 15 100] true, .settle]).map
        (fun z => (z.x.st.timer.isSome, z.x.st.log.any (fun e => e.2 == .signalFail 0 15), z.x.st.waiters.all (·.resolved)))) = [(false, true, true)] := by decide

end Props.C07
