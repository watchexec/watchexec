/-! C13 "changes made from inside handlers … reconfiguring from within a handler neither deadlocks nor affects an
    invocation already in progress": the handler cells of `Config` (`ChangeableFn`, changeable.rs) and what a handler
    invocation may do to the configuration it runs under.

    `ChangeableFn::call` takes the handler out of the cell (an `Arc` clone under a read lock that is released before the
    call) and runs THAT handler to its end; `replace` swaps the cell's content at any time, also from inside the running
    handler. A handler is identified by its *generation* (how many replacements came before it). The model is total: an
    invocation always ends — an implementation that never answers (a handler blocked on its own cell's lock) disagrees
    with it. The `handler-reconf` stream runs this model against a real Watchexec instance. -/
namespace Rc

/-- what a handler does from inside its own invocation -/
inductive InH where
  | paths (ps : List String)      -- Config::pathset
  | kind (k : String)             -- Config::file_watcher
  | replAct                       -- Config::on_action: replace the action handler (possibly the one running)
  | replErr                       -- Config::on_error
  | nop
  deriving Repr, DecidableEq

structure R where
  paths : List String := []
  kind : String := "N"
  actGen : Nat := 0
  errGen : Nat := 0
  escripts : List (List InH) := []      -- what the next error-handler invocations will do (harness scripts)
  alog : List (List String) := []       -- per script segment: the action handler's log
  elog : List (List String) := []
  deriving Repr

def applyIn (r : R) : InH → R
  | .paths ps => { r with paths := ps }
  | .kind k => { r with kind := k }
  | .replAct => { r with actGen := r.actGen + 1 }
  | .replErr => { r with errGen := r.errGen + 1 }
  | .nop => r

def runIn (r : R) (acts : List InH) : R := acts.foldl applyIn r

/-- one invocation of the action handler: the generation current when the call STARTED logs start and end -/
def invokeAct (r : R) (acts : List InH) : R × List String :=
  let g := r.actGen
  (runIn r acts, [s!"s{g}", s!"e{g}"])

/-- one invocation of the error handler; it does what the next queued script says -/
def invokeErr (r : R) : R × List String :=
  let g := r.errGen
  let (acts, rest) := match r.escripts with | a :: l => (a, l) | [] => ([], [])
  (runIn { r with escripts := rest } acts, [s!"s{g}", s!"e{g}"])

def invokeErrs : Nat → R → R × List String
  | 0, r => (r, [])
  | k + 1, r =>
    let (r1, l1) := invokeErr r
    let (r2, l2) := invokeErrs k r1
    (r2, l1 ++ l2)

/-- a script step; `errs` = how many runtime errors reached the error handler before the instance went quiet
    (an input: it depends on how many watch attempts the fs worker made) -/
inductive Top where
  | ev (acts : List InH) (errs : Nat)                      -- an event: one action-handler invocation
  | set (ps : List String) (k : String) (errs : Nat)       -- a change from outside
  | eh (acts : List InH)                                   -- script for a later error-handler invocation
  deriving Repr

def stepTop (r : R) : Top → R
  | .ev acts k =>
    let (r1, la) := invokeAct r acts
    let (r2, le) := invokeErrs k r1
    { r2 with alog := r2.alog ++ [la], elog := r2.elog ++ [le] }
  | .set ps kd k =>
    let (r2, le) := invokeErrs k { r with paths := ps, kind := kd }
    { r2 with alog := r2.alog ++ [[]], elog := r2.elog ++ [le] }
  | .eh acts => { r with escripts := r.escripts ++ [acts] }

def run (tops : List Top) : R := tops.foldl stepTop {}

/-- **an invocation in progress is not affected**: whatever the handler does from inside — replacing itself any number
    of times included — the call that started as generation `g` ends as generation `g` -/
theorem invocation_keeps_its_generation (r : R) (acts : List InH) :
    (invokeAct r acts).2 = [s!"s{r.actGen}", s!"e{r.actGen}"] := rfl

theorem applyIn_actGen (r : R) (a : InH) : (applyIn r a).actGen = r.actGen + (if a == .replAct then 1 else 0) := by
  cases a <;> rfl

/-- **a replacement made from inside takes effect for the next invocation** -/
theorem replacement_is_for_the_next_invocation (r : R) (acts : List InH) :
    (invokeAct r acts).1.actGen = r.actGen + acts.count .replAct := by
  show (acts.foldl applyIn r).actGen = _
  induction acts generalizing r with
  | nil => rfl
  | cons a l ih =>
    rw [List.foldl_cons, ih, applyIn_actGen, List.count_cons]
    omega

def lastPaths (acts : List InH) (d : List String) : List String :=
  acts.foldl (fun acc a => match a with | .paths ps => ps | _ => acc) d

theorem applyIn_paths (r : R) (a : InH) : (applyIn r a).paths = (match a with | .paths ps => ps | _ => r.paths) := by
  cases a <;> rfl

/-- **a change made from inside a handler is a change**: the configured path set after the invocation is the last one
    the handler set (the fs worker then converges to it: `Fw.c13_converges`) -/
theorem handler_changes_are_configured (r : R) (acts : List InH) :
    (invokeAct r acts).1.paths = lastPaths acts r.paths :=
  (List.foldl_hom R.paths fun x a => (applyIn_paths x a).symm).symm

/-- non-vacuity: a handler that replaces itself twice and sets the paths — this call is generation 0, the next is 2 -/
example : ((run [.ev [.replAct, .paths ["a+"], .replAct] 0, .ev [] 0]).alog, (run [.ev [.replAct, .paths ["a+"], .replAct] 0, .ev [] 0]).paths)
    = ([["s0", "e0"], ["s2", "e2"]], ["a+"]) := by decide

end Rc
