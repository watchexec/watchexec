import Wx.Fs.C13f
/-! C13: convergence of the repaired fs worker over whole runs (fault-free), and witnesses of F8a and F8b in the
    unrepaired worker (flags off). -/
namespace Fw

/-- registered = believed, and matches the configuration -/
def Converged (c : Cfg) (p : Priv) : Prop :=
  if c.paths = [] then p.watcher = none ∧ p.localSet = []
  else ∃ reg, p.watcher = some (c.kind, reg) ∧ p.wtype = c.kind ∧
        (∀ x, x ∈ reg ↔ x ∈ c.paths) ∧ (∀ x, x ∈ p.localSet ↔ x ∈ c.paths)

theorem converged_nil {c : Cfg} {p : Priv} (he : c.paths = []) :
    Converged c p ↔ p.watcher = none ∧ p.localSet = [] := by
  unfold Converged
  rw [if_pos he]

theorem converged_ne_nil {c : Cfg} {p : Priv} (hne : c.paths ≠ []) :
    Converged c p ↔ ∃ reg, p.watcher = some (c.kind, reg) ∧ p.wtype = c.kind ∧
      (∀ x, x ∈ reg ↔ x ∈ c.paths) ∧ (∀ x, x ∈ p.localSet ↔ x ∈ c.paths) := by
  unfold Converged
  rw [if_neg hne]

theorem iteration_core (s : St) (hf : s.fx.f8a = true) (hW : s.failW = []) (hU : s.failU = [])
    (hs : Sync' s.priv) (hc : NodupNames s.cfg.paths) :
    Sync' (iteration s).priv ∧ Converged s.cfg (iteration s).priv := by
  by_cases he : s.cfg.paths = []
  · obtain ⟨hw, hl⟩ : (iteration s).priv.watcher = none ∧ (iteration s).priv.localSet = [] := empty_set_releases s he
    exact ⟨⟨hl ▸ List.nodup_nil, by rw [hw]; exact hl⟩, (converged_nil he).2 ⟨hw, hl⟩⟩
  · obtain ⟨hs', ⟨reg, hw, ht, hr⟩, -⟩ := iteration_faults s hf hU hs hc he
    have hr' : ∀ x, x ∈ reg ↔ x ∈ s.cfg.paths := fun x => (hr x).trans (and_iff_left (Or.inr (by rw [hW]; rfl)))
    exact ⟨hs', (converged_ne_nil he).2 ⟨reg, hw, ht, hr', fun x => ((hs'.inSync hw).2.mem x).symm.trans (hr' x)⟩⟩

def wake (s : St) : Bool := s.pendingWake || (s.fx.f8b && s.seen != s.ver)

/-- the worker has taken the wake-up: what `iteration` runs on -/
def St.woken (s : St) : St := { s with pendingWake := false, seen := s.ver }

theorem runWorker_succ (fuel : Nat) (s : St) : runWorker (fuel + 1) s =
    if wake s then runWorker fuel (iteration s.woken) else s := rfl

/-- the invariant over every reachable state of the repaired, fault-free worker -/
structure J (s : St) : Prop where
  fx : s.fx = ⟨true, true⟩
  fW : s.failW = []
  fU : s.failU = []
  sync : Sync' s.priv
  wfc : NodupNames s.cfg.paths
  wfh : ∀ h ∈ s.hooks, NodupNames h.2.paths
  q : wake s = false → Converged s.cfg s.priv

theorem J.f8a {s : St} (h : J s) : s.fx.f8a = true := congrArg Fixes.f8a h.fx

theorem J.f8b {s : St} (h : J s) : s.fx.f8b = true := congrArg Fixes.f8b h.fx

theorem J_iteration {s : St} (h : J s) : J (iteration s.woken) := by
  obtain ⟨sy, cv⟩ := iteration_core s.woken h.f8a h.fW h.fU h.sync h.wfc
  have fr := frame_iteration s.woken
  generalize iteration s.woken = s1 at *
  have hcfg : NodupNames s1.cfg.paths := by
    rcases fr.later.cfgFrom with hc | ⟨hk, hh, hc⟩
    · rw [hc]; exact h.wfc
    · rw [hc]; exact h.wfh hk hh
  refine ⟨fr.fx.trans h.fx, fr.failW.trans h.fW, fr.failU.trans h.fU, sy, hcfg,
    fun hk hh => h.wfh hk (fr.later.hooks hk hh), fun hw => ?_⟩
  -- quiescent with F8b repaired: the counter did not move during the iteration, so neither did the configuration
  have hfx : s1.fx.f8b = true := by rw [fr.fx]; exact h.f8b
  simp only [wake, hfx, Bool.true_and, Bool.or_eq_false_iff, bne_eq_false_iff_eq] at hw
  rw [(fr.later.same (hw.2.symm.trans fr.later.seen)).1]
  exact cv

theorem J_runWorker {s : St} (h : J s) (fuel : Nat) : J (runWorker fuel s) := by
  induction fuel generalizing s with
  | zero => exact h
  | succ n ih =>
    rw [runWorker_succ]
    split
    · exact ih (J_iteration h)
    · exact h

theorem J_applyCfg {s : St} (h : J s) (c : Cfg) (hc : NodupNames c.paths) : J (applyCfg s c true) :=
  ⟨h.fx, h.fW, h.fU, h.sync, hc, h.wfh, fun hw => by simp [wake, applyCfg] at hw⟩

theorem J_addHook {s : St} (h : J s) (n : String) (c : Cfg) (hc : NodupNames c.paths) :
    J { s with hooks := [(n, c)] } :=
  ⟨h.fx, h.fW, h.fU, h.sync, h.wfc, fun hk hh => by simp at hh; subst hh; exact hc, h.q⟩

theorem J_init : J (runWorker 16 { fx := ⟨true, true⟩ }) := by
  apply J_runWorker
  refine ⟨rfl, rfl, rfl, ⟨List.nodup_nil, rfl⟩, ?_, ?_, ?_⟩
  · intro a ha; simp at ha
  · intro h hh; simp at hh
  · intro hw; simp [wake] at hw

/-- **C13 (convergence, repaired, fault-free)** — from any state satisfying `J` (the sequences of configuration
    changes that lead to one are in `Props.C13.converges`): whenever the worker is quiescent again, the active
    watcher has the configured kind and exactly the configured paths registered (which is also what the worker
    believes), and no watcher exists iff the set is empty. -/
theorem c13_converges {s : St} (h : J s) (fuel : Nat) :
    wake (runWorker fuel s) = false → Converged (runWorker fuel s).cfg (runWorker fuel s).priv :=
  (J_runWorker h fuel).q

def a' : WP := ⟨"a", true⟩
def b' : WP := ⟨"b", true⟩

/-- F8a: native → poll with the same path set registers nothing with the new watcher -/
theorem f8a_witness :
    let s1 := runWorker 16 (applyCfg (runWorker 16 {}) ⟨[a'], .native⟩ true)
    let s2 := runWorker 16 (applyCfg s1 ⟨[a'], .poll⟩ true)
    wake s2 = false ∧ s2.watcher = some (.poll, []) := by decide

/-- F8b: a change made from inside `watch(a)` is never applied -/
theorem f8b_witness :
    let s0 : St := { runWorker 16 {} with hooks := [("a", ⟨[a', b'], .native⟩)] }
    let s1 := runWorker 16 (applyCfg s0 ⟨[a'], .native⟩ true)
    wake s1 = false ∧ s1.cfg.paths = [a', b'] ∧ s1.watcher = some (.native, [a']) := by decide

#print axioms c13_converges
end Fw
