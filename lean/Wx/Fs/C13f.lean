import Wx.Fs.Model
/-! C13, one iteration of the repaired fs worker, with injected registration failures: "a path that fails to register is
    reported as a runtime error (once per attempt) without preventing the others".

    The state has three parts that the steps of an iteration touch separately. The shared configuration cell (`cfg`,
    `ver`, `pendingWake`, `hooks`) is written only by a hook firing inside a call: `Later`. The injected faults and the
    repairs are written by nobody: `Frame`. On the worker's own part (`Priv`, `errs`) the two calls act as if no hook
    existed (`doWatch_priv`, `doUnwatch_ok`), so what is registered is a matter of lists alone: `InSync`. -/
namespace Fw

/-- the worker-private part that `Converged` reads -/
structure Priv where
  watcher : Option (Kind × List WP)
  wtype : Kind
  localSet : List WP
  deriving Repr, DecidableEq

def St.priv (s : St) : Priv := ⟨s.watcher, s.wtype, s.localSet⟩

def NodupNames (l : List WP) : Prop := ∀ a ∈ l, ∀ b ∈ l, a.name = b.name → a = b

/-- `watch` on the private part (no faults) -/
def watP (p : Priv) (x : WP) : Priv :=
  match p.watcher with
  | some (k, reg) =>
    { p with watcher := some (k, regRemove reg x.name ++ [x]),
             localSet := if p.localSet.contains x then p.localSet else p.localSet ++ [x] }
  | none => p

def watPF (F : List String) (p : Priv) (x : WP) : Priv := if F.contains x.name then p else watP p x

/-- `t` is `s` after hooks have fired (the later state comes first). `same`: an unmoved counter means an unmoved `cfg`,
    which the F8b comparison relies on; `cfgFrom` and `hooks` let an invariant over all armed hook configurations
    (`J.wfh`) pass to the new `cfg`; `seen` rides along because `J_iteration` compares it with `ver`. -/
structure Later (t s : St) : Prop where
  seen : t.seen = s.seen
  mono : s.ver ≤ t.ver
  same : t.ver = s.ver → t.cfg = s.cfg ∧ t.pendingWake = s.pendingWake
  hooks : ∀ h ∈ t.hooks, h ∈ s.hooks
  cfgFrom : t.cfg = s.cfg ∨ ∃ h ∈ s.hooks, t.cfg = h.2

/-- what holds of the private part between iterations -/
structure Sync' (p : Priv) : Prop where
  nd : p.localSet.Nodup
  ok : match p.watcher with
       | none => p.localSet = []
       | some (k, reg) => p.wtype = k ∧ NodupNames reg ∧ (∀ x, x ∈ reg ↔ x ∈ p.localSet)

theorem Later.trans {a b c : St} (h1 : Later a b) (h2 : Later b c) : Later a c := by
  refine ⟨h1.seen.trans h2.seen, Nat.le_trans h2.mono h1.mono, ?_, fun h hh => h2.hooks h (h1.hooks h hh), ?_⟩
  · intro hv
    have hb : b.ver = c.ver := Nat.le_antisymm (by rw [← hv]; exact h1.mono) h2.mono
    have ha : a.ver = b.ver := by rw [hv, hb]
    obtain ⟨x1, x2⟩ := h1.same ha
    obtain ⟨y1, y2⟩ := h2.same hb
    exact ⟨x1.trans y1, x2.trans y2⟩
  · rcases h1.cfgFrom with h | ⟨h, hh, he⟩
    · rw [h]; exact h2.cfgFrom
    · exact Or.inr ⟨h, h2.hooks h hh, he⟩

structure Frame (t s : St) : Prop where
  later : Later t s
  fx : t.fx = s.fx
  failW : t.failW = s.failW
  failU : t.failU = s.failU
  named : t.named = s.named

theorem Frame.own (s : St) {w t l e g} :
    Frame { s with watcher := w, wtype := t, localSet := l, errs := e, log := g } s :=
  ⟨⟨rfl, Nat.le_refl _, fun _ => ⟨rfl, rfl⟩, fun _ h => h, Or.inl rfl⟩, rfl, rfl, rfl, rfl⟩

theorem Frame.refl (s : St) : Frame s s := Frame.own s

theorem Frame.trans {a b c : St} (h1 : Frame a b) (h2 : Frame b c) : Frame a c :=
  ⟨h1.later.trans h2.later, h1.fx.trans h2.fx, h1.failW.trans h2.failW, h1.failU.trans h2.failU, h1.named.trans h2.named⟩

theorem Frame.foldl {α : Type} {f : St → α → St} (step : ∀ s x, Frame (f s x) s) (xs : List α) (s : St) :
    Frame (xs.foldl f s) s :=
  List.foldlRecOn (motive := (Frame · s)) xs f (Frame.refl s) fun t ht x _ => (step t x).trans ht

/-- `fire` writes only the shared cell; the values written are quantified away, since no user of the equation reads them -/
theorem fire_eq (s : St) (n : String) :
    ∃ c v w h, fire s n = { s with cfg := c, ver := v, pendingWake := w, hooks := h } := by
  unfold fire applyCfg
  split <;> exact ⟨_, _, _, _, rfl⟩

theorem frame_fire (s : St) (n : String) : Frame (fire s n) s := by
  unfold fire
  cases hf : s.hooks.find? (·.1 == n) with
  | none => exact Frame.refl s
  | some h =>
    refine ⟨⟨rfl, by simp [applyCfg], fun hv => by simp [applyCfg] at hv, fun x hx => (List.mem_filter.mp hx).1,
      Or.inr ⟨h, List.mem_of_find?_eq_some hf, rfl⟩⟩, rfl, rfl, rfl, rfl⟩

/-- the part of `RecW::watch` after the hook has fired -/
def watCore (s : St) (p : WP) : St :=
  match s.watcher with
  | some (k, reg) =>
    if s.failW.contains p.name then { s with errs := s.errs + errNOf s.named p.name }
    else { s with watcher := some (k, regRemove reg p.name ++ [p]),
                  localSet := if s.localSet.contains p then s.localSet else s.localSet ++ [p] }
  | none => s

/-- the part of `RecW::unwatch` after the hook has fired -/
def unwCore (s : St) (p : WP) : St :=
  match s.watcher with
  | some (k, reg) =>
    if s.failU.contains p.name || !(reg.any (·.name == p.name)) then
      { s with errs := s.errs + errNOf s.named p.name }
    else { s with watcher := some (k, regRemove reg p.name), localSet := s.localSet.filter (· != p) }
  | none => s

theorem doWatch_eq (s : St) (p : WP) :
    doWatch s p = watCore (fire { s with log := s!"watch:{wpStr p}" :: s.log } p.name) p := rfl

theorem doUnwatch_eq (s : St) (p : WP) :
    doUnwatch s p = unwCore (fire { s with log := s!"unwatch:{p.name}" :: s.log } p.name) p := rfl

structure SameOwn (t s : St) : Prop where
  watcher : t.watcher = s.watcher
  wtype : t.wtype = s.wtype
  localSet : t.localSet = s.localSet
  errs : t.errs = s.errs

theorem SameOwn.priv {t s : St} (h : SameOwn t s) : t.priv = s.priv := by
  unfold St.priv
  rw [h.watcher, h.wtype, h.localSet]

/-- a core that sees neither the shared cell nor the log might as well run before the hook fires: on the worker's
    own part the call is its core on the same state -/
theorem call_own (k : St → WP → St) {s : St} {p : WP} {l : String}
    (hk : ∀ c v w h g, k { s with cfg := c, ver := v, pendingWake := w, hooks := h, log := g } p =
      { k s p with cfg := c, ver := v, pendingWake := w, hooks := h, log := g }) :
    SameOwn (k (fire { s with log := l :: s.log } p.name) p) (k s p) := by
  obtain ⟨c, v, w, h, e⟩ := fire_eq { s with log := l :: s.log } p.name
  rw [e, show k _ p = _ from hk c v w h (l :: s.log)]
  exact ⟨rfl, rfl, rfl, rfl⟩

theorem doWatch_own (s : St) (p : WP) : SameOwn (doWatch s p) (watCore s p) := by
  rw [doWatch_eq]
  refine call_own watCore fun c v w h g => ?_
  unfold watCore
  rcases hw : s.watcher with _ | ⟨k, reg⟩ <;> simp only [hw]
  split <;> rfl

theorem doUnwatch_own (s : St) (p : WP) : SameOwn (doUnwatch s p) (unwCore s p) := by
  rw [doUnwatch_eq]
  refine call_own unwCore fun c v w h g => ?_
  unfold unwCore
  rcases hw : s.watcher with _ | ⟨k, reg⟩ <;> simp only [hw]
  split <;> rfl

theorem frame_watCore (s : St) (p : WP) : Frame (watCore s p) s := by
  unfold watCore
  split
  · split <;> exact Frame.own s
  · exact Frame.refl s

theorem frame_unwCore (s : St) (p : WP) : Frame (unwCore s p) s := by
  unfold unwCore
  split
  · split <;> exact Frame.own s
  · exact Frame.refl s

theorem frame_call {k : St → WP → St} (hk : ∀ s p, Frame (k s p) s) (s : St) (p : WP) (l : String) :
    Frame (k (fire { s with log := l :: s.log } p.name) p) s :=
  ((hk _ p).trans (frame_fire _ p.name)).trans (Frame.own s)

theorem frame_doWatch (s : St) (p : WP) : Frame (doWatch s p) s := by
  rw [doWatch_eq]
  exact frame_call frame_watCore s p _

theorem frame_doUnwatch (s : St) (p : WP) : Frame (doUnwatch s p) s := by
  rw [doUnwatch_eq]
  exact frame_call frame_unwCore s p _

theorem doWatch_priv (s : St) (x : WP) : (doWatch s x).priv = watPF s.failW s.priv x := by
  rw [(doWatch_own s x).priv]
  unfold watCore watPF watP St.priv
  split <;> split <;> simp only [*]

theorem doWatch_errs (s : St) (x : WP) (hw : s.watcher.isSome = true) :
    (doWatch s x).watcher.isSome = true ∧
    (doWatch s x).errs = s.errs + if s.failW.contains x.name then errNOf s.named x.name else 0 := by
  rw [(doWatch_own s x).watcher, (doWatch_own s x).errs]
  unfold watCore
  split
  · split <;> simp only [*, Nat.add_zero, Option.isSome_some, and_self]
  · simp [*] at hw

theorem doUnwatch_ok {s : St} {d : WP} {k : Kind} {reg : List WP} (hU : s.failU.contains d.name = false)
    (hw : s.watcher = some (k, reg)) (hany : reg.any (·.name == d.name) = true) :
    (doUnwatch s d).watcher = some (k, regRemove reg d.name) ∧ (doUnwatch s d).localSet = s.localSet.filter (· != d) ∧
    (doUnwatch s d).wtype = s.wtype ∧ (doUnwatch s d).errs = s.errs := by
  obtain ⟨ew, et, el, ee⟩ := doUnwatch_own s d
  rw [ew, et, el, ee]
  unfold unwCore
  simp only [hw, hU, hany, Bool.not_true, Bool.or_self, Bool.false_eq_true, if_false, and_self]

/-- **a failed unregistration is remembered, so it is attempted again** -/
theorem failed_unwatch_is_remembered (s : St) (p : WP) (h : s.failU.contains p.name = true) :
    (doUnwatch s p).localSet = s.localSet ∧ (doUnwatch s p).watcher = s.watcher ∧
    (s.watcher ≠ none → (doUnwatch s p).errs = s.errs + errNOf s.named p.name) := by
  obtain ⟨ew, -, el, ee⟩ := doUnwatch_own s p
  rw [ew, el, ee]
  unfold unwCore
  split
  · simp only [h, Bool.true_or, if_true, ne_eq, implies_true, and_self]
  · exact ⟨rfl, rfl, fun hne => absurd ‹_› hne⟩

theorem mem_regRemove {reg : List WP} {n : String} {y : WP} : y ∈ regRemove reg n ↔ y ∈ reg ∧ y.name ≠ n := by
  unfold regRemove; simp

theorem NodupNames.mono {l l' : List WP} (h : NodupNames l) (hs : ∀ x ∈ l', x ∈ l) : NodupNames l' :=
  fun a ha b hb => h a (hs a ha) b (hs b hb)

/-- the watcher's registrations and the worker's belief hold the same paths, no name and no path twice -/
structure InSync (reg loc : List WP) : Prop where
  names : NodupNames reg
  mem : ∀ x, x ∈ reg ↔ x ∈ loc
  nodup : loc.Nodup

/-- `unwatch` removes by name, the worker by path: the same thing while names are distinct -/
theorem InSync.drop {reg loc : List WP} {d : WP} (h : InSync reg loc) (hd : d ∈ loc) :
    reg.any (·.name == d.name) = true ∧ InSync (regRemove reg d.name) (loc.filter (· != d)) := by
  have hdr : d ∈ reg := (h.mem d).mpr hd
  refine ⟨List.any_eq_true.mpr ⟨d, hdr, by simp⟩, h.names.mono fun x hx => (mem_regRemove.mp hx).1, fun x => ?_,
    h.nodup.sublist List.filter_sublist⟩
  rw [mem_regRemove, List.mem_filter, h.mem x, bne_iff_ne]
  exact and_congr_right fun hx =>
    ⟨fun hne hxd => hne (hxd ▸ rfl), fun hne hn => hne (h.names x ((h.mem x).mpr hx) d hdr hn)⟩

theorem mem_addNew {loc : List WP} {w y : WP} :
    y ∈ (if loc.contains w then loc else loc ++ [w]) ↔ y ∈ loc ∨ y = w := by
  split
  · next hc => exact ⟨Or.inl, fun h => h.elim id fun e => e ▸ List.contains_iff_mem.mp hc⟩
  · simp

/-- `watch` replaces by name, the worker adds the path: the same thing when no other path has that name -/
theorem InSync.add {reg loc : List WP} {w : WP} (h : InSync reg loc) (hc : ∀ y ∈ reg, y.name = w.name → y = w) :
    InSync (regRemove reg w.name ++ [w]) (if loc.contains w then loc else loc ++ [w]) := by
  have hrem : ∀ y, y ∈ regRemove reg w.name ++ [w] ↔ y ∈ reg ∨ y = w := by
    intro y
    rw [List.mem_append, mem_regRemove, List.mem_singleton]
    refine ⟨fun hy => hy.imp And.left id, fun hy => hy.elim (fun hy => ?_) Or.inr⟩
    by_cases hn : y.name = w.name
    · exact Or.inr (hc y hy hn)
    · exact Or.inl ⟨hy, hn⟩
  refine ⟨?_, fun x => by rw [hrem, mem_addNew, h.mem], ?_⟩
  · intro a ha b hb hab
    rcases (hrem a).mp ha with ha' | rfl <;> rcases (hrem b).mp hb with hb' | rfl
    · exact h.names a ha' b hb' hab
    · exact hc a ha' hab
    · exact (hc b hb' hab.symm).symm
    · rfl
  · split
    · exact h.nodup
    · next hn =>
      refine List.nodup_append.mpr ⟨h.nodup, by simp, fun a ha b hb hab => hn ?_⟩
      rw [List.contains_iff_mem, ← List.mem_singleton.mp hb, ← hab]
      exact ha

theorem Sync'.inSync {p : Priv} {k : Kind} {reg : List WP} (hs : Sync' p) (hw : p.watcher = some (k, reg)) :
    p.wtype = k ∧ InSync reg p.localSet := by
  have h := hs.ok
  simp only [hw] at h
  exact ⟨h.1, h.2.1, h.2.2, hs.nd⟩

theorem InSync.sync' {p : Priv} {k : Kind} {reg : List WP} (h : InSync reg p.localSet) (hw : p.watcher = some (k, reg))
    (ht : p.wtype = k) : Sync' p :=
  ⟨h.nodup, by simp only [hw]; exact ⟨ht, h.names, h.mem⟩⟩

theorem dropFold {k : Kind} (ds : List WP) : ∀ (s : St) (reg : List WP), s.failU = [] → ds.Nodup →
    s.watcher = some (k, reg) → InSync reg s.localSet → (∀ d ∈ ds, d ∈ s.localSet) →
    (ds.foldl doUnwatch s).errs = s.errs ∧ (ds.foldl doUnwatch s).wtype = s.wtype ∧
    ∃ reg', (ds.foldl doUnwatch s).watcher = some (k, reg') ∧ InSync reg' (ds.foldl doUnwatch s).localSet ∧
      ∀ x, x ∈ (ds.foldl doUnwatch s).localSet ↔ x ∈ s.localSet ∧ x ∉ ds := by
  induction ds with
  | nil => intro s reg _ _ hw hs _; exact ⟨rfl, rfl, reg, hw, hs, by simp⟩
  | cons d ds ih =>
    intro s reg hU hnd hw hs hd
    obtain ⟨hany, hs'⟩ := hs.drop (hd d List.mem_cons_self)
    obtain ⟨w1, l1, t1, e1⟩ := doUnwatch_ok (by rw [hU]; rfl) hw hany
    obtain ⟨hdn, hnd'⟩ := List.nodup_cons.mp hnd
    obtain ⟨e2, t2, reg', w2, s2, m2⟩ := ih (doUnwatch s d) _ ((frame_doUnwatch s d).failU.trans hU) hnd' w1 (l1 ▸ hs')
      fun e he => l1 ▸ List.mem_filter.mpr ⟨hd e (List.mem_cons_of_mem _ he), bne_iff_ne.mpr fun h => hdn (h ▸ he)⟩
    refine ⟨e2.trans e1, t2.trans t1, reg', w2, s2, fun x => ?_⟩
    rw [List.foldl_cons, m2, l1, List.mem_filter, List.mem_cons, not_or, bne_iff_ne, and_assoc]

theorem dropFold_errs (ds : List WP) : ∀ (s : St) (k : Kind) (reg : List WP), s.failU = [] → ds.Nodup →
    s.watcher = some (k, reg) → NodupNames reg → (∀ x, x ∈ reg ↔ x ∈ s.localSet) → s.localSet.Nodup →
    (∀ d ∈ ds, d ∈ s.localSet) → (ds.foldl doUnwatch s).errs = s.errs :=
  fun s _ reg hU hnd hw hn hs hl hd => (dropFold ds s reg hU hnd hw ⟨hn, hs, hl⟩ hd).1

theorem foldl_watch_priv (xs : List WP) (s : St) : (xs.foldl doWatch s).priv = xs.foldl (watPF s.failW) s.priv := by
  induction xs generalizing s with
  | nil => rfl
  | cons x xs ih => rw [List.foldl_cons, ih, doWatch_priv, (frame_doWatch s x).failW]; rfl

theorem foldl_watPF (F : List String) (xs : List WP) (p : Priv) :
    xs.foldl (watPF F) p = (xs.filter (fun x => !F.contains x.name)).foldl watP p := by
  induction xs generalizing p with
  | nil => rfl
  | cons x xs ih =>
    rw [List.foldl_cons, List.filter_cons, ih, watPF]
    cases F.contains x.name <;> rfl

theorem foldl_watch_errs (xs : List WP) (s : St) (hw : s.watcher.isSome = true) :
    (xs.foldl doWatch s).errs =
      s.errs + ((xs.filter (fun x => s.failW.contains x.name)).map (fun x => errNOf s.named x.name)).sum := by
  induction xs generalizing s with
  | nil => rfl
  | cons x xs ih =>
    obtain ⟨hw', e⟩ := doWatch_errs s x hw
    have f := frame_doWatch s x
    rw [List.foldl_cons, ih _ hw', e, f.failW, f.named, List.filter_cons]
    split <;> simp only [List.map_cons, List.sum_cons, Nat.add_assoc, Nat.zero_add]

/-- `C` is the configured list: everything registered or about to be lies in it, so equal names mean equal paths, the
    side condition of `InSync.add` -/
theorem watchFold {k : Kind} {C : List WP} (hC : NodupNames C) (ws : List WP) : ∀ (p : Priv) (reg : List WP),
    p.watcher = some (k, reg) → InSync reg p.localSet → (∀ y ∈ reg, y ∈ C) → (∀ w ∈ ws, w ∈ C) →
    (ws.foldl watP p).wtype = p.wtype ∧
    ∃ reg', (ws.foldl watP p).watcher = some (k, reg') ∧ InSync reg' (ws.foldl watP p).localSet ∧
      ∀ x, x ∈ (ws.foldl watP p).localSet ↔ x ∈ p.localSet ∨ x ∈ ws := by
  induction ws with
  | nil => intro p reg hw hs _ _; exact ⟨rfl, reg, hw, hs, by simp⟩
  | cons w ws ih =>
    intro p reg hw hs hreg hws
    have hwC := hws w List.mem_cons_self
    have hstep : watP p w = ⟨some (k, regRemove reg w.name ++ [w]), p.wtype,
        if p.localSet.contains w then p.localSet else p.localSet ++ [w]⟩ := by
      unfold watP; simp only [hw]
    obtain ⟨t, reg', w', s', m'⟩ := ih (watP p w) _ (by rw [hstep])
      (by rw [hstep]; exact hs.add fun y hy => hC y (hreg y hy) w hwC)
      (fun y hy => (List.mem_append.mp hy).elim (fun h => hreg y (mem_regRemove.mp h).1) fun h => List.mem_singleton.mp h ▸ hwC)
      fun w' h => hws w' (List.mem_cons_of_mem _ h)
    refine ⟨t.trans (by rw [hstep]), reg', w', s', fun x => ?_⟩
    rw [List.foldl_cons, m', hstep, mem_addNew, List.mem_cons, or_assoc]

theorem watchFoldSt {k : Kind} {C : List WP} (hC : NodupNames C) (ws : List WP) (s : St) (reg : List WP)
    (hw : s.watcher = some (k, reg)) (hi : InSync reg s.localSet) (hreg : ∀ y ∈ reg, y ∈ C) (hws : ∀ w ∈ ws, w ∈ C) :
    (ws.foldl doWatch s).errs =
      s.errs + ((ws.filter fun x => s.failW.contains x.name).map fun x => errNOf s.named x.name).sum ∧
    (ws.foldl doWatch s).wtype = s.wtype ∧
    ∃ reg', (ws.foldl doWatch s).watcher = some (k, reg') ∧ InSync reg' (ws.foldl doWatch s).localSet ∧
      ∀ x, x ∈ (ws.foldl doWatch s).localSet ↔ x ∈ s.localSet ∨ x ∈ ws ∧ s.failW.contains x.name = false := by
  have hp : (ws.foldl doWatch s).priv = (ws.filter fun x => !s.failW.contains x.name).foldl watP s.priv := by
    rw [foldl_watch_priv, foldl_watPF]
  obtain ⟨t, reg', w', i', m'⟩ := watchFold hC (ws.filter fun x => !s.failW.contains x.name) s.priv reg hw hi hreg
    fun w h => hws w (List.mem_filter.mp h).1
  rw [← hp] at t w' i' m'
  refine ⟨foldl_watch_errs ws s (by rw [hw]; rfl), t, reg', w', i', fun x => (m' x).trans ?_⟩
  rw [List.mem_filter, Bool.not_eq_true']
  rfl

theorem plan_eq (cp l : List WP) :
    plan cp l = (cp.filter (fun p => !l.contains p), l.filter (fun p => !cp.contains p)) := by
  unfold plan
  cases l with
  | nil => simp [(List.filter_eq_self (l := cp)).mpr]
  | cons a l => simp

/-- the log is quantified away: no theorem reads it, and it is all the inner branches differ in -/
theorem ensureWatcher_eq (s : St) : ∃ g, ensureWatcher s =
    if s.watcher.isNone || s.wtype != s.cfg.kind then
      { s with log := g, wtype := s.cfg.kind, watcher := some (s.cfg.kind, []),
               localSet := if s.fx.f8a then [] else s.localSet }
    else s := by
  unfold ensureWatcher
  simp only []
  split
  · split <;> exact ⟨_, rfl⟩
  · exact ⟨s.log, rfl⟩

theorem ensureWatcher_frame (s : St) :
    Frame (ensureWatcher s) s ∧ (ensureWatcher s).cfg = s.cfg ∧ (ensureWatcher s).errs = s.errs := by
  obtain ⟨g, e⟩ := ensureWatcher_eq s
  rw [e]
  split
  · exact ⟨Frame.own s, rfl, rfl⟩
  · exact ⟨Frame.refl s, rfl, rfl⟩

theorem ensureWatcher_sync (s : St) (hf : s.fx.f8a = true) (hs : Sync' s.priv) :
    ∃ reg, (ensureWatcher s).watcher = some (s.cfg.kind, reg) ∧ (ensureWatcher s).wtype = s.cfg.kind ∧
      InSync reg (ensureWatcher s).localSet := by
  obtain ⟨g, e⟩ := ensureWatcher_eq s
  rw [e, hf]
  split
  · exact ⟨[], rfl, rfl, nofun, fun _ => Iff.rfl, List.nodup_nil⟩
  · next hcond =>
    rcases hw : s.watcher with _ | ⟨k, reg⟩
    · simp [hw] at hcond
    · obtain ⟨ht, hi⟩ := hs.inSync hw
      have hk : s.wtype = s.cfg.kind := by simpa [hw] using hcond
      exact ⟨reg, by rw [← hk, ← ht]; rfl, hk, hi⟩

theorem iteration_eq (s : St) (hne : s.cfg.paths ≠ []) :
    iteration s = (s.cfg.paths.filter fun p => !(ensureWatcher s).localSet.contains p).foldl doWatch
      (((ensureWatcher s).localSet.filter fun p => !s.cfg.paths.contains p).foldl doUnwatch (ensureWatcher s)) := by
  unfold iteration
  simp only [List.isEmpty_iff, hne, if_false, (ensureWatcher_frame s).2.1, plan_eq]

/-- the runtime errors one iteration raises: for every failing registration attempt, one per path its notify error names
    (one, naming the configured path, when it names none) -/
def iterationErrs (s : St) : Nat :=
  (((s.cfg.paths.filter (fun p => !(ensureWatcher s).localSet.contains p)).filter (fun x => s.failW.contains x.name)).map
    (fun x => errNOf s.named x.name)).sum

/-- **one iteration with failing registrations** (repaired worker, no unwatch failures, non-empty configuration).
    `(ensureWatcher s).localSet` is the belief after a possible re-creation of the watcher (`[]` then, F8a repaired;
    `s.localSet` otherwise): a failing path already believed stays registered, since it is not attempted again. -/
theorem iteration_faults (s : St) (hf : s.fx.f8a = true) (hU : s.failU = []) (hs : Sync' s.priv) (hc : NodupNames s.cfg.paths)
    (hne : s.cfg.paths ≠ []) :
    Sync' (iteration s).priv ∧
    (∃ reg, (iteration s).watcher = some (s.cfg.kind, reg) ∧ (iteration s).wtype = s.cfg.kind ∧
      ∀ x, x ∈ reg ↔ x ∈ s.cfg.paths ∧ (x ∈ (ensureWatcher s).localSet ∨ s.failW.contains x.name = false)) ∧
    (iteration s).errs = s.errs + iterationErrs s ∧
    (iteration s).failW = s.failW ∧ (iteration s).failU = [] ∧ Later (iteration s) s := by
  obtain ⟨reg1, w1, t1, i1⟩ := ensureWatcher_sync s hf hs
  obtain ⟨f1, -, e1⟩ := ensureWatcher_frame s
  rw [iteration_eq s hne]
  unfold iterationErrs
  generalize ensureWatcher s = s1 at *
  -- the drops: believed and no longer configured; no error
  obtain ⟨e2, t2, reg2, w2, i2, m2⟩ := dropFold (s1.localSet.filter fun p => !s.cfg.paths.contains p) s1 reg1
    (f1.failU.trans hU) (i1.nodup.sublist List.filter_sublist) w1 i1 fun d hd => (List.mem_filter.mp hd).1
  have f2 := (Frame.foldl frame_doUnwatch (s1.localSet.filter fun p => !s.cfg.paths.contains p) s1).trans f1
  generalize (s1.localSet.filter fun p => !s.cfg.paths.contains p).foldl doUnwatch s1 = s2 at *
  have hsub : ∀ x, x ∈ s2.localSet → x ∈ s.cfg.paths := fun x hx => by
    obtain ⟨h1, h2⟩ := (m2 x).mp hx
    simpa [h1] using h2
  -- the watches: configured and not believed; the failing ones are skipped and reported
  obtain ⟨e3, t3, reg3, w3, i3, m3⟩ := watchFoldSt hc (s.cfg.paths.filter fun p => !s1.localSet.contains p) s2 reg2 w2 i2
    (fun y hy => hsub y ((i2.mem y).mp hy)) fun w hw => (List.mem_filter.mp hw).1
  have f3 := (Frame.foldl frame_doWatch (s.cfg.paths.filter fun p => !s1.localSet.contains p) s2).trans f2
  generalize (s.cfg.paths.filter fun p => !s1.localSet.contains p).foldl doWatch s2 = s3 at *
  refine ⟨i3.sync' w3 (t3.trans (t2.trans t1)), ⟨reg3, w3, t3.trans (t2.trans t1), fun x => ?_⟩, ?_, f3.failW,
    f3.failU.trans hU, f3.later⟩
  · rw [i3.mem, m3, m2, f2.failW]
    simp only [List.mem_filter, Bool.not_eq_true', List.contains_eq_mem, decide_eq_false_iff_not, not_and, Decidable.not_not]
    by_cases hl : x ∈ s1.localSet <;> simp [hl]
  · rw [e3, f2.failW, f2.named, e2, e1]

/-- **an empty set releases the watcher** — unconditionally: whatever failed before, whatever the worker believes -/
theorem empty_set_releases (s : St) (h : s.cfg.paths = []) : (iteration s).watcher = none ∧ (iteration s).localSet = [] := by
  unfold iteration release
  simp only [h, List.isEmpty_nil, if_true]
  exact ⟨trivial, trivial⟩

theorem frame_iteration (s : St) : Frame (iteration s) s := by
  unfold iteration
  split
  · unfold release
    split <;> exact Frame.own s
  · exact ((Frame.foldl frame_doWatch _ _).trans (Frame.foldl frame_doUnwatch _ _)).trans (ensureWatcher_frame s).1

theorem others_are_registered (s : St) (hf : s.fx.f8a = true) (hU : s.failU = []) (hs : Sync' s.priv) (hc : NodupNames s.cfg.paths)
    (x : WP) (hx : x ∈ s.cfg.paths) (hok : s.failW.contains x.name = false) :
    ∃ k reg, (iteration s).watcher = some (k, reg) ∧ x ∈ reg := by
  obtain ⟨_, ⟨reg, hw, _, hreg⟩, _⟩ := iteration_faults s hf hU hs hc (List.ne_nil_of_mem hx)
  exact ⟨_, reg, hw, (hreg x).mpr ⟨hx, Or.inr hok⟩⟩

theorem errors_once_per_attempt (s : St) (hf : s.fx.f8a = true) (hU : s.failU = []) (hs : Sync' s.priv) (hc : NodupNames s.cfg.paths)
    (hne : s.cfg.paths ≠ []) : (iteration s).errs = s.errs + iterationErrs s :=
  (iteration_faults s hf hU hs hc hne).2.2.1

theorem errNOf_eq_one {named : List (String × Nat)} (h1 : ∀ e ∈ named, e.2 ≤ 1) (n : String) : errNOf named n = 1 := by
  unfold errNOf
  split
  · next k hfd =>
    have := h1 _ (List.mem_of_find?_eq_some hfd)
    split
    · rfl
    · simp only [] at this; omega
  · rfl

theorem errors_one_per_attempt (s : St) (hf : s.fx.f8a = true) (hU : s.failU = []) (hs : Sync' s.priv) (hc : NodupNames s.cfg.paths)
    (hne : s.cfg.paths ≠ []) (h1 : ∀ e ∈ s.named, e.2 ≤ 1) :
    (iteration s).errs = s.errs +
      ((s.cfg.paths.filter (fun p => !(ensureWatcher s).localSet.contains p)).filter (fun x => s.failW.contains x.name)).length := by
  rw [errors_once_per_attempt s hf hU hs hc hne, iterationErrs]
  congr 1
  generalize (s.cfg.paths.filter (fun p => !(ensureWatcher s).localSet.contains p)).filter (fun x => s.failW.contains x.name) = l
  induction l with
  | nil => rfl
  | cons x l ih => rw [List.map_cons, List.sum_cons, ih, errNOf_eq_one h1, List.length_cons, Nat.add_comm]

theorem failing_path_stays_out (s : St) (hf : s.fx.f8a = true) (hU : s.failU = []) (hs : Sync' s.priv) (hc : NodupNames s.cfg.paths)
    (hne : s.cfg.paths ≠ []) (x : WP) (hfail : s.failW.contains x.name = true) (hnew : x ∉ (ensureWatcher s).localSet) :
    ∀ k reg, (iteration s).watcher = some (k, reg) → x ∉ reg := by
  intro k reg hw hx
  obtain ⟨_, ⟨reg', hw', _, hreg⟩, _⟩ := iteration_faults s hf hU hs hc hne
  cases hw'.symm.trans hw
  rcases ((hreg x).mp hx).2 with h | h
  · exact hnew h
  · rw [hfail] at h; cases h

/-- non-vacuity, by evaluation: `a` fails, `b` and `c` do not — `b`, `c` are registered, one error; after `a` stops failing
    the next change registers it too (it was retried because it never entered the local set) -/
example :
    let s0 : St := { runWorker 16 { fx := ⟨true, true⟩ } with failW := ["a"] }
    let s1 := runWorker 16 (applyCfg s0 ⟨[⟨"a", true⟩, ⟨"b", true⟩, ⟨"c", false⟩], .native⟩ true)
    let s2 := runWorker 16 (applyCfg { s1 with failW := [] } ⟨[⟨"a", true⟩, ⟨"b", true⟩, ⟨"c", false⟩], .native⟩ true)
    s1.watcher = some (.native, [⟨"b", true⟩, ⟨"c", false⟩]) ∧ s1.errs = 1 ∧
    s2.watcher = some (.native, [⟨"b", true⟩, ⟨"c", false⟩, ⟨"a", true⟩]) ∧ s2.errs = 1 := by decide

#print axioms iteration_faults
end Fw
