/-! C01 with real filesystem operations: what the filesystem source owes the action handler.

    A path is written as its components relative to the watched tree's root. Three watch configurations are exercised:
    the root recursively, the root non-recursively, and one subtree recursively together with one single file. The
    scripted filterer rejects every event naming a path that contains `skip` and fails on `boom`.

    `segOk` is the judgement the `fs-real` stream applies to what the real instance delivered after each operation:
    every operation on a visible, accepted path shows up (`missing`), and nothing the filter rejected or errored on,
    and nothing outside the watched area, is ever delivered (`forbidden`). The exactly-once accounting of the batches
    themselves is the worker model's (`Sp.Th`, C01/C02 theorems); here the counters must agree (delivered = accepted). -/
namespace Fsrc

inductive Mode | R | N | F deriving Repr, DecidableEq

def comps (s : String) : List String := if s == "." then [] else s.splitOn "/"

def hasSub (s : String) (pat : String) : Bool := (s.splitOn pat).length > 1

/-- under the watched area? (`F`: the subtree `sub` recursively + the single file `a.txt`) -/
def visible : Mode → List String → Bool
  | .R, _ => true
  | .N, p => p.length ≤ 1
  | .F, p => p.take 1 == ["sub"] || p == ["a.txt"]

def rejected (p : List String) : Bool := p.any (hasSub · "skip")
def erroring (p : List String) : Bool := p.any (hasSub · "boom")
def accepted (p : List String) : Bool := !rejected p && !erroring p

/-- may this path be named by a delivered event at all? (the root itself may: directory-level events) -/
def allowed (m : Mode) (p : List String) : Bool := accepted p && (p.isEmpty || visible m p || (m == .F && p == ["sub"]))

inductive Op where
  | touch (p : List String)            -- create / remove / mkdir / rmdir: always observable
  | write (p : List String)            -- append: the poll watcher compares whole seconds, so it may miss it
  | move (p q : List String)
  | failed                              -- the operation itself failed: nothing is owed
  deriving Repr

/-- paths that MUST be named by some delivered event after the operation -/
def must (m : Mode) (poll : Bool) : Op → List (List String)
  | .touch p => if visible m p && accepted p then [p] else []
  | .write p => if !poll && visible m p && accepted p then [p] else []
  | .move p q =>
    if accepted p && accepted q then (if visible m p then [p] else []) ++ (if visible m q then [q] else []) else []
  | .failed => []

/-- `none` = fine; otherwise what is wrong. `got` = paths delivered after this operation, `next` = after the next one
    (a late batch still counts) -/
def segOk (m : Mode) (poll : Bool) (op : Op) (got next : List (List String)) : Option String :=
  match got.find? (fun p => !allowed m p) with
  | some p => some ("forbidden:" ++ "/".intercalate p)
  | none =>
    match (must m poll op).find? (fun p => !(got.contains p || next.contains p)) with
    | some p => some ("missing:" ++ "/".intercalate p)
    | none => none

theorem segOk_iff (m : Mode) (poll : Bool) (op : Op) (got next : List (List String)) :
    segOk m poll op got next = none ↔
      (∀ p ∈ got, allowed m p = true) ∧ ∀ p ∈ must m poll op, p ∈ got ∨ p ∈ next := by
  have h : segOk m poll op got next = none ↔ got.find? (fun p => !allowed m p) = none ∧
      (must m poll op).find? (fun p => !(got.contains p || next.contains p)) = none := by
    unfold segOk
    split
    · simp only [*, reduceCtorEq, false_and]
    · split <;> simp only [*, reduceCtorEq, and_false, and_self]
  simp [h, List.find?_eq_none, Decidable.or_iff_not_imp_left]

theorem segOk_forbidden {m : Mode} {poll : Bool} {op : Op} {got next : List (List String)} {p : List String}
    (hp : p ∈ got) (h : allowed m p = false) : (segOk m poll op got next).isSome = true :=
  Option.isSome_iff_ne_none.2 fun hn => Bool.false_ne_true (h ▸ ((segOk_iff ..).1 hn).1 p hp)

theorem rejected_never_ok (m : Mode) (poll : Bool) (op : Op) (got next : List (List String)) (p : List String)
    (hp : p ∈ got) (hr : rejected p = true ∨ erroring p = true) : (segOk m poll op got next).isSome = true := by
  refine segOk_forbidden hp ?_
  unfold allowed accepted
  rcases hr with h | h <;> simp [h]

theorem outside_never_ok (m : Mode) (poll : Bool) (op : Op) (got next : List (List String)) (p : List String)
    (hp : p ∈ got) (hne : p ≠ []) (hv : visible m p = false) (hs : ¬ (m = .F ∧ p = ["sub"])) :
    (segOk m poll op got next).isSome = true := by
  refine segOk_forbidden hp ?_
  have h1 : p.isEmpty = false := by cases p <;> simp_all
  have h2 : (m == Mode.F && p == ["sub"]) = false := Bool.eq_false_iff.2 fun hm => hs (by simpa using hm)
  simp [allowed, h1, hv, h2]

theorem missing_is_flagged (m : Mode) (poll : Bool) (p : List String) (hv : visible m p = true) (ha : accepted p = true) :
    segOk m poll (.touch p) [] [] = some ("missing:" ++ "/".intercalate p) := by
  simp [segOk, must, hv, ha]

end Fsrc
