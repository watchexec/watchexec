import Wx.Cli.Compose
import Wx.Job.C06w
import Wx.Job.Reach
/-! Everything the CLI composition does to its job is a walk in `Jm.Reach`: the whole-run theorems about the job task
    (at most one live process, every history a run of the documented machine; without an interrupt / terminate signal
    also: no kill before the grace period) hold for every script of CLI events. -/
namespace Ca
open Jm

/-- the controls the CLI's action logic can send (`quitOk`: may the script contain INT / TERM?) -/
inductive MaySend (cfg : Cfg) (quitOk : Bool) : Prio → Ctl → Prop
  | func (id : Nat) : MaySend cfg quitOk .normal (.func id)
  | react (cs : CS) (q : Option ChildId) (ctls : List Ctl) (k : Ctl) : Act.send ctls ∈ (react cfg cs q).1 → k ∈ ctls → MaySend cfg quitOk .normal k
  | follow (run : ChildId) (q : Option ChildId) (ctls : List Ctl) (k : Ctl) : Act.send ctls ∈ (followUpActs run q).1 → k ∈ ctls → MaySend cfg quitOk .normal k
  | wait : MaySend cfg quitOk .high .nextEnding
  | pass (g : Sig) : MaySend cfg quitOk .normal (.signal g)
  | quit (m : Manner) (ctls : List Ctl) (k : Ctl) : quitOk = true → ctls ∈ quitCtls m → k ∈ ctls → MaySend cfg quitOk .normal k

variable {SendOk : Prio → Ctl → Prop} {x0 : Sim} {cfg0 : Cfg} {quitOk : Bool}

/-- `MaySend` speaks of the initial configuration while `afterTurn` calls `react c.cfg`: the second conjunct says the
    configuration never changes -/
def GoodC (SendOk : Prio → Ctl → Prop) (x0 : Sim) (cfg0 : Cfg) (c : C) : Prop := Reach SendOk x0 c.x ∧ c.cfg = cfg0

theorem GoodC.congr {c d : C} (h : GoodC SendOk x0 cfg0 c) (hx : d.x = c.x := by rfl) (hc : d.cfg = c.cfg := by rfl) :
    GoodC SendOk x0 cfg0 d :=
  ⟨hx ▸ h.1, hc.trans h.2⟩

theorem GoodC.step {c d : C} (h : GoodC SendOk x0 cfg0 c) (hx : Reach SendOk x0 d.x) (hc : d.cfg = c.cfg := by rfl) :
    GoodC SendOk x0 cfg0 d :=
  ⟨hx, hc.trans h.2⟩

theorem foldl_good {α : Type} {l : List α} {f : C → α → C} (hf : ∀ c a, a ∈ l → GoodC SendOk x0 cfg0 c → GoodC SendOk x0 cfg0 (f c a))
    {c : C} (h : GoodC SendOk x0 cfg0 c) : GoodC SendOk x0 cfg0 (l.foldl f c) :=
  List.foldlRecOn l f h fun c hc a ha => hf c a ha hc

theorem applyActs_good {c : C} (acts : List Act) (hacts : ∀ ctls, Act.send ctls ∈ acts → ∀ k ∈ ctls, SendOk .normal k)
    (h : GoodC SendOk x0 cfg0 c) : GoodC SendOk x0 cfg0 (applyActs c acts) := by
  refine foldl_good (fun c a ha hc => ?_) h
  cases a with
  | send ctls => exact hc.step (Reach.doSend .normal ctls false (hacts ctls ha) hc.1)
  | followUp run => exact hc

/-- the script contains no interrupt / terminate signal -/
def NoQuitEv : Ev → Prop
  | .sig n | .mix n => n ≠ term ∧ n ≠ sigInt
  | .eof => False          -- (a keyboard EOF quits under `--stdin-quit`)
  | _ => True

section
variable (hok : ∀ {p k}, MaySend cfg0 quitOk p k → SendOk p k)
include hok

theorem startFollowUps_good {c : C} (h : GoodC SendOk x0 cfg0 c) : GoodC SendOk x0 cfg0 (startFollowUps c) := by
  refine foldl_good (fun _ _ _ hc => ?_) h.congr
  exact hc.step (Reach.doSend .high [.nextEnding] true (List.forall_mem_singleton.2 (hok .wait)) hc.1)

theorem afterTurn_good {c : C} (old : St) (h : GoodC SendOk x0 cfg0 c) : GoodC SendOk x0 cfg0 (afterTurn c old) := by
  refine foldl_good (fun c q _ hc => ?_) h
  split
  · exact hc
  · split
    · refine applyActs_good _ ?_ hc.congr
      intro ctls hmem k hk
      rw [hc.2] at hmem
      exact hok (.react _ _ ctls k hmem hk)
    · exact hc

theorem wakeFollowUps_good {c : C} (h : GoodC SendOk x0 cfg0 c) : GoodC SendOk x0 cfg0 (wakeFollowUps c).1 := by
  unfold wakeFollowUps
  simp only []
  split
  · exact h
  · refine foldl_good (fun c wr _ hc => ?_) h.congr
    exact applyActs_good _ (fun ctls hmem k hk => hok (.follow wr.2 _ ctls k hmem hk)) hc.congr

theorem settleC_good (fuel : Nat) {c : C} (h : GoodC SendOk x0 cfg0 c) : ∀ c' ∈ settleC fuel c, GoodC SendOk x0 cfg0 c' := by
  induction fuel generalizing c with
  | zero => exact List.forall_mem_singleton.2 h
  | succ n ih =>
    have start : ∀ c' ∈ settleC n (startFollowUps c), GoodC SendOk x0 cfg0 c' := ih (startFollowUps_good hok h)
    have wake : ∀ {d : C}, GoodC SendOk x0 cfg0 d →
        ∀ c' ∈ (if (wakeFollowUps d).2 = true then settleC n (wakeFollowUps d).1 else [(wakeFollowUps d).1]), GoodC SendOk x0 cfg0 c' := by
      intro d hd c' hc'
      split at hc'
      · exact ih (wakeFollowUps_good hok hd) c' hc'
      · exact List.mem_singleton.1 hc' ▸ wakeFollowUps_good hok hd
    intro c' hc'
    unfold settleC at hc'
    split at hc'
    · -- the job task sleeps; the other tasks run
      split at hc'
      · exact start c' hc'
      · split at hc'
        · exact ih (h.step (.drain h.1)) c' hc'
        · exact wake h c' hc'
    · split at hc'
      · -- the job task is idle: it parks, the other tasks run
        split at hc'
        · exact start c' hc'
        · simp only [] at hc'
          split at hc'
          · exact ih (h.step (.drain (.park h.1))) c' hc'
          · exact wake (h.step (.park h.1)) c' hc'
      · rcases List.mem_append.1 hc' with hc' | hc'
        · split at hc'
          · cases hc'
          · exact start c' hc'
        · obtain ⟨s', hs', hc'⟩ := List.mem_flatMap.1 hc'
          exact ih (afterTurn_good hok c.x.st (h.step (.turn s' h.1 hs'))) c' hc'

theorem advanceC_good (fuel target : Nat) {c : C} (h : GoodC SendOk x0 cfg0 c) :
    ∀ c' ∈ advanceC fuel target c, GoodC SendOk x0 cfg0 c' := by
  induction fuel generalizing c with
  | zero => exact List.forall_mem_singleton.2 h
  | succ n ih =>
    intro c' hc'
    unfold advanceC at hc'
    obtain ⟨d, hd, hc'⟩ := List.mem_flatMap.1 hc'
    have hd := settleC_good hok 300 h d hd
    have at_ : ∀ t, GoodC SendOk x0 cfg0 { d with x := { d.x with st := { d.x.st with now := t } } } := fun t => hd.step (.now t hd.1)
    split at hc'
    · -- asleep inside a delay closure: the clock jumps to the end of the sleep, or to the target
      generalize (if d.blockedUntil ≤ target then d.blockedUntil else target) = t at hc'
      simp only [] at hc'
      split at hc'
      · exact List.mem_singleton.1 hc' ▸ hd
      · exact ih (at_ t) c' hc'
    · split at hc'
      · next t _ => exact ih (at_ t) c' hc'
      · exact settleC_good hok 300 (at_ target) c' hc'

theorem onEvent_good {c : C} (h : GoodC SendOk x0 cfg0 c) : GoodC SendOk x0 cfg0 (onEvent c) := by
  have one : ∀ (c : C) (id : Nat), GoodC SendOk x0 cfg0 c → Reach SendOk x0 (doSend c.x .normal [.func id] false) := fun c id hc =>
    Reach.doSend .normal [.func id] false (List.forall_mem_singleton.2 (hok (.func id))) hc.1
  unfold onEvent
  simp only []
  split
  · exact h.step (one _ _ (h.step (one c _ h)))
  · exact h.step (one c _ h)

theorem quit_good (hqo : quitOk = true) (m : Manner) {c : C} (h : GoodC SendOk x0 cfg0 c) :
    GoodC SendOk x0 cfg0 ((quitCtls m).foldl (fun c ctls => { c with x := doSend c.x .normal ctls false }) c) := by
  refine foldl_good (fun _ ctls hmem hc => ?_) h
  exact hc.step (Reach.doSend .normal ctls false (fun k hk => hok (.quit m ctls k hqo hmem hk)) hc.1)

theorem onSignal_good {c : C} (sig : Nat) (hq : quitOk = false → sig ≠ term ∧ sig ≠ sigInt) (h : GoodC SendOk x0 cfg0 c) :
    GoodC SendOk x0 cfg0 (onSignal c sig) := by
  unfold onSignal
  split
  · next m hm =>
    -- only INT / TERM quit (any other signal is passed on), and a script that may not quit has neither
    have hqo : quitOk = true := by
      cases hqk : quitOk with
      | true => rfl
      | false =>
        rw [other_signals_pass c.cfg c.quitCount [sig] (mt List.mem_singleton.1 (hq hqk).1.symm)
          (mt List.mem_singleton.1 (hq hqk).2.symm)] at hm
        cases hm
    exact quit_good hok hqo m h.congr
  · refine foldl_good (fun _ g _ hc => ?_) h
    exact hc.step (Reach.doSend .normal [.signal g] false (List.forall_mem_singleton.2 (hok (.pass g))) hc.1)

theorem onEofEv_good {c : C} (hqo : quitOk = true) (h : GoodC SendOk x0 cfg0 c) : GoodC SendOk x0 cfg0 (onEofEv c) := by
  unfold onEofEv
  split
  · next m _ => exact quit_good hok hqo m h.congr
  · exact h

theorem stepEv_good {c : C} (e : Ev) (hq : quitOk = false → NoQuitEv e) (h : GoodC SendOk x0 cfg0 c) :
    ∀ c' ∈ stepEv c e, GoodC SendOk x0 cfg0 c' := by
  -- once it is quitting, the action worker handles no further event
  have guard : ∀ {d : C} {l : List C}, GoodC SendOk x0 cfg0 d → (∀ c' ∈ l, GoodC SendOk x0 cfg0 c') →
      ∀ c' ∈ (if d.quitCount > 0 then [d] else l), GoodC SendOk x0 cfg0 c' := by
    intro d l hd hl
    split
    · exact List.forall_mem_singleton.2 hd
    · exact hl
  cases e with
  | init | chg => exact guard h (List.forall_mem_singleton.2 (onEvent_good hok h))
  | sig n => exact guard h (List.forall_mem_singleton.2 (onSignal_good hok n hq h))
  | mix n => exact guard h (guard (onSignal_good hok n hq h) (List.forall_mem_singleton.2 (onEvent_good hok (onSignal_good hok n hq h))))
  | eof =>
    cases hqk : quitOk with
    | true => exact guard h (List.forall_mem_singleton.2 (onEofEv_good hok hqk h))
    | false => exact absurd (hq hqk) id
  | settle => exact settleC_good hok 300 h
  | advance ms => exact advanceC_good hok 64 _ h

end

theorem runEvs_good (hok : ∀ p k, MaySend cfg0 quitOk p k → SendOk p k) (evs : List Ev) (hq : quitOk = false → ∀ e ∈ evs, NoQuitEv e)
    {c : C} (h : GoodC SendOk x0 cfg0 c) : ∀ c' ∈ runEvs c evs, GoodC SendOk x0 cfg0 c' := by
  induction evs generalizing c with
  | nil => exact List.forall_mem_singleton.2 h
  | cons e es ih =>
    intro c' hc'
    obtain ⟨d, hd, hc'⟩ := List.mem_flatMap.1 hc'
    exact ih (fun hf e' he' => hq hf e' (List.mem_cons_of_mem _ he'))
      (stepEv_good (hok _ _) e (fun hf => hq hf e List.mem_cons_self) h d hd) c' hc'

/-- where every CLI script starts: the repaired job task, nothing sent yet -/
def initC (cfg : Cfg) (behs : List Beh) (delay : Option Nat) : C :=
  { x := { st := { cfg := Fixes.all, behs := behs, hookSet := true, parked := true } }, cfg := cfg, delayRun := delay }

theorem good_init (cfg : Cfg) (behs : List Beh) (delay : Option Nat) :
    GoodC SendOk (initC cfg behs delay).x cfg (initC cfg behs delay) :=
  ⟨.refl _, rfl⟩

theorem cli_inv {I : Sim → Prop} (H : SimInv2 I SendOk) {cfg : Cfg} (hok : ∀ {p k}, MaySend cfg quitOk p k → SendOk p k)
    {behs : List Beh} {delay : Option Nat} (evs : List Ev) (hq : quitOk = false → ∀ e ∈ evs, NoQuitEv e)
    (h0 : I (initC cfg behs delay).x) : ∀ c ∈ runEvs (initC cfg behs delay) evs, I c.x :=
  fun c hc => H.reach h0 (runEvs_good (fun _ _ => hok) evs hq (good_init cfg behs delay) c hc).1

/-- **C05 — runs never overlap, and the command is driven as documented**: for every CLI configuration, every child
    behaviour and every script of events (changes, signals incl. INT / TERM, mixed actions, any timing, `--delay-run`),
    every state the composed model reaches has at most one live process, and the job's observable state and effect log
    are a run of the documented job machine -/
theorem cli_runs_never_overlap (cfg : Cfg) (behs : List Beh) (delay : Option Nat) (evs : List Ev) :
    ∀ c ∈ runEvs (initC cfg behs delay) evs, Inv c.x.st ∧ SpecRun (initC cfg behs delay).x.st.abs c.x.st.abs c.x.st.fx :=
  fun c hc => (cli_inv (runInv_simInv _) (quitOk := true) (fun _ => trivial) evs (fun hf => nomatch hf)
    (runInv_init behs) c hc).2

/-- the only grace period is restart mode's stop timeout -/
theorem maySend_gentle_of {cfg : Cfg} {G : Nat} (hG : cfg.mode = .restart → G ≤ cfg.stopTimeout) {p : Prio} {k : Ctl}
    (h : MaySend cfg false p k) : Gentle G k := by
  cases h with
  | react cs q ctls k hm hk =>
    rcases react_sends (mem_sentCtls.2 ⟨ctls, hm, hk⟩) with rfl | rfl | ⟨_, rfl⟩ | ⟨hr, rfl⟩
    · trivial
    · trivial
    · trivial
    · exact hG hr
  | follow run q ctls k hm hk => rcases followUp_sends (mem_sentCtls.2 ⟨ctls, hm, hk⟩) with rfl | rfl <;> trivial
  | quit m ctls k hq _ _ => cases hq
  | _ => trivial

theorem maySend_gentle (cfg : Cfg) (p : Prio) (k : Ctl) (h : MaySend cfg false p k) : Gentle cfg.stopTimeout k :=
  maySend_gentle_of (fun _ => Nat.le_refl _) h

theorem cli_grace {cfg : Cfg} {G : Nat} (hG : cfg.mode = .restart → G ≤ cfg.stopTimeout) (behs : List Beh) (delay : Option Nat)
    (evs : List Ev) (hq : ∀ e ∈ evs, NoQuitEv e) : ∀ c ∈ runEvs (initC cfg behs delay) evs, Grace G c.x.st :=
  fun c hc => (cli_inv (graceInv_simInv G _) (maySend_gentle_of hG) evs (fun _ => hq)
    ⟨runInv_init behs, grace_init G behs⟩ c hc).2

/-- **C05 — restart stops gracefully; nothing else ever kills**: in every script without an interrupt / terminate signal,
    every kill recorded by the composed model comes at least the stop timeout after a signal to the same process -/
theorem cli_never_kills_early (cfg : Cfg) (behs : List Beh) (delay : Option Nat) (evs : List Ev) (hq : ∀ e ∈ evs, NoQuitEv e) :
    ∀ c ∈ runEvs (initC cfg behs delay) evs, ∀ t ch, (t, Obs.kill ch) ∈ c.x.st.log →
      ∃ t0 sig, (t0, Obs.signal ch sig) ∈ c.x.st.log ∧ t0 + cfg.stopTimeout ≤ t :=
  fun c hc => (cli_grace (fun _ => Nat.le_refl _) behs delay evs hq c hc).k

/-- **C05 — do-nothing, queue and signal modes never kill the command**: in every script without an interrupt / terminate
    signal the composed model's log contains no kill at all -/
theorem cli_other_modes_never_kill (cfg : Cfg) (hm : cfg.mode ≠ .restart) (behs : List Beh) (delay : Option Nat) (evs : List Ev)
    (hq : ∀ e ∈ evs, NoQuitEv e) : ∀ c ∈ runEvs (initC cfg behs delay) evs, ∀ t ch, (t, Obs.kill ch) ∉ c.x.st.log := by
  intro c hc t ch hk
  -- outside restart mode any grace period will do: take one longer than the kill's time
  obtain ⟨t0, _, _, hle⟩ := (cli_grace (G := t + 1) (fun h => absurd h hm) behs delay evs hq c hc).k t ch hk
  omega

#print axioms cli_other_modes_never_kill
#print axioms cli_runs_never_overlap
#print axioms cli_never_kills_early
end Ca
