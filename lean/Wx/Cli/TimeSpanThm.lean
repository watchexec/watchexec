import Wx.Cli.TimeSpan
namespace Ca.Ts

theorem stripPlus_id' (s : List Char) : (∀ r, s ≠ '+' :: r) → (match s with | '+' :: r => r | _ => s) = s := by
  intro h
  split
  · next r => exact absurd rfl (h r)
  · rfl

/-- a string that starts with a digit has no sign for `parseU64` to strip -/
theorem parseU64_digits (ds u : List Char) (hne : ds ≠ []) (hd : ds.all isDigit = true) :
    parseU64 (ds ++ u) =
      if (ds ++ u).all isDigit ∧ valOf (ds ++ u) < 2 ^ 64 then some (valOf (ds ++ u)) else none := by
  have hp : ∀ r, ds ++ u ≠ '+' :: r := by
    cases ds with
    | nil => exact absurd rfl hne
    | cons d ds =>
      intro r h
      injection h with h
      simp [h, isDigit] at hd
  -- unfolding `parseU64`, `simp` discards the `'+'` arm of its sign match by `hp`
  simp only [parseU64]
  simp [hne]

/-- **a value without a unit is scaled by the option's own multiplier** -/
theorem unitless_is_scaled (mult : Nat) (ds : List Char) (hne : ds ≠ []) (hd : ds.all isDigit = true) (hlt : valOf ds < 2 ^ 64) :
    parseSpan mult ds = some (valOf ds * mult) := by
  have := parseU64_digits ds [] hne hd
  rw [List.append_nil, if_pos ⟨hd, hlt⟩] at this
  simp [parseSpan, this]

theorem parseU64_with_unit (ds : List Char) (hd : ds.all isDigit = true) (hne : ds ≠ []) (c : Char) (r : List Char)
    (hc : isDigit c = false) : parseU64 (ds ++ c :: r) = none := by
  rw [parseU64_digits ds _ hne hd, if_neg]
  simp [hc]

theorem unitNs_head {u : String} {ns : Nat} (hu : unitNs u = some ns) : ∃ c r, u.toList = c :: r ∧ isDigit c = false := by
  unfold unitNs at hu
  split at hu <;> first | exact ⟨_, _, rfl, by decide⟩ | cases hu

theorem unit_respected {mult : Nat} {ds : List Char} {u : String} {ns : Nat} (hne : ds ≠ []) (hd : ds.all isDigit = true)
    (hlt : valOf ds < 2 ^ 64) (hu : unitNs u = some ns) : parseSpan mult (ds ++ u.toList) = some (valOf ds * ns) := by
  obtain ⟨c, r, hul, hc⟩ := unitNs_head hu
  have hd' : ∀ a ∈ ds, isDigit a = true := List.all_eq_true.1 hd
  have ht : (ds ++ u.toList).takeWhile isDigit = ds := by simp [hul, List.takeWhile_append_of_pos hd', hc]
  have hr : (ds ++ u.toList).dropWhile isDigit = u.toList := by simp [hul, List.dropWhile_append_of_pos hd', hc]
  have h1 : parseU64 (ds ++ u.toList) = none := hul ▸ parseU64_with_unit ds hd hne c r hc
  simp only [parseSpan, h1, parseOnePart, ht, hr, String.ofList_toList, hu]
  rw [if_neg (by simp [hne]; omega)]
  rfl

/-- **a unit makes the option's default irrelevant**: `<digits><unit>` is that many units whatever the option -/
theorem unit_is_respected (mult : Nat) (ds : List Char) (u : String) (ns : Nat) (hne : ds ≠ []) (hd : ds.all isDigit = true)
    (hlt : valOf ds < 2 ^ 64) (hu : unitNs u = some ns) (c : Char) (r : List Char) (hul : u.toList = c :: r) (hc : isDigit c = false) :
    parseSpan mult (ds ++ u.toList) = some (valOf ds * ns) := by
  -- `c r hul hc` follow from `hu` (`unitNs_head`); `Props.C02.a_unit_overrides_the_options_default` has this shape, and
  -- `unit_respected` is the lemma
  have _ := hul; have _ := hc
  exact unit_respected hne hd hlt hu

-- the documented defaults and examples
example : parseSpan msMult "50".toList = some 50000000 := by decide +kernel          -- --debounce 50 = 50 ms
example : parseSpan sMult "10".toList = some 10000000000 := by decide +kernel        -- --stop-timeout 10 = 10 s
example : parseSpan msMult "0".toList = some 0 := by decide +kernel
example : parseSpan sMult "500ms".toList = some 500000000 := by decide +kernel
example : parseSpan msMult "2s".toList = some 2000000000 := by decide +kernel
example : parseSpan msMult "1min".toList = some 60000000000 := by decide +kernel
example : parseSpan msMult "ms".toList = none := by decide +kernel
example : parseSpan msMult "5parsecs".toList = none := by decide +kernel

end Ca.Ts
