import Wx.Cli.Action
import Wx.Job.Sim
/-! C05 / C08: the CLI's action logic composed with the job task. Every event makes the action handler enqueue one
    state-query closure (a `func` control with a fresh id ≥ 2000); when the job task executes it, the reaction of
    `Ca.react` is enqueued at that very point; a queue-mode follow-up acts when its wait-for-end ticket resolves; a
    signal to watchexec quits or is passed on. This file is the model the `cli-action` / `cli-quit` streams run
    (`Wx.Driver.CliAction` only parses); `Wx.Cli.ComposeThm` shows that everything it does stays inside the closure
    `Jm.Reach` of primitive job steps, so every whole-run theorem about the job applies to the CLI. -/
namespace Ca
open Jm

structure C where
  x : Sim
  cfg : Cfg
  queuedFor : Option ChildId := none
  pendingQ : List Nat := []                 -- query closures sent and not yet executed
  nextQ : Nat := 2000
  follow : List (WaiterId × ChildId) := []  -- follow-up tasks blocked in to_wait().await, and the run they belong to
  spawning : List ChildId := []             -- follow-up tasks spawned by a query closure that have not run yet (they run when the job task yields, or at once on another thread)
  delayRun : Option Nat := none             -- --delay-run: a closure that sleeps INSIDE the job task before every query
  delayIds : List Nat := []                 -- delay closures sent and not yet executed
  blockedUntil : Nat := 0                   -- the job task is asleep inside a delay closure until then: it takes no turn
  quitCount : Nat := 0                      -- quits requested so far (the action worker handles no further event once it is quitting)

def queryIds (log : List (Nat × Obs)) (n : Nat) : List Nat :=
  (log.take n).reverse.filterMap (fun (_, o) => match o with | .func id _ _ => if id ≥ 2000 then some id else none | _ => none)

def applyActs (c : C) (acts : List Act) : C :=
  acts.foldl (fun c a => match a with
    | .send ctls => { c with x := doSend c.x .normal ctls false }
    | .followUp run => { c with spawning := c.spawning ++ [run] }) c

/-- the spawned follow-up tasks get to run: each sends `job.to_wait()` (high priority) and awaits the ticket -/
def startFollowUps (c : C) : C :=
  c.spawning.foldl (fun c run =>
    let w := c.x.nextWaiter
    { c with x := doSend c.x .high [.nextEnding] true, follow := c.follow ++ [(w, run)] }) { c with spawning := [] }

/-- after a task turn (old → new state): run the reactions of every query closure that executed in it -/
def afterTurn (c : C) (old : St) : C :=
  let fresh := queryIds c.x.st.log (c.x.st.log.length - old.log.length)
  fresh.foldl (fun c q =>
    if c.delayIds.contains q then
      { c with delayIds := c.delayIds.erase q, blockedUntil := c.x.st.now + c.delayRun.getD 0 }
    else if c.pendingQ.contains q then
      let (acts, qf) := react c.cfg c.x.st.cs c.queuedFor
      applyActs { c with pendingQ := c.pendingQ.erase q, queuedFor := qf } acts
    else c) c

/-- follow-up tasks whose ticket has resolved act now -/
def wakeFollowUps (c : C) : C × Bool :=
  let (ready, waiting) := c.follow.partition (fun (w, _) => (c.x.st.waiters.find? (·.id == w)).map (·.resolved) == some true)
  if ready.isEmpty then (c, false) else
  (ready.foldl (fun c (_, run) =>
    let (acts, qf) := followUpActs run c.queuedFor
    applyActs { c with queuedFor := qf } acts) { c with follow := waiting }, true)

def settleC : Nat → C → List C
  | 0, c => [c]
  | fuel + 1, c =>
    if c.x.st.now < c.blockedUntil then
      -- the job task sleeps inside a delay closure; the other tasks (spawned follow-ups, woken waiters) run
      if !c.spawning.isEmpty then settleC fuel (startFollowUps c)
      else if !c.x.st.pendingPolls.isEmpty then settleC fuel { c with x := { c.x with st := drainPolls c.x.st } }
      else
        let (c', woke) := wakeFollowUps c
        if woke then settleC fuel c' else [c']
    else
    match turns c.x.st with
    | [] =>
      if !c.spawning.isEmpty then settleC fuel (startFollowUps c) else
      let s := park c.x.st
      if !s.pendingPolls.isEmpty then settleC fuel { c with x := { c.x with st := drainPolls s } }
      else
        let (c', woke) := wakeFollowUps { c with x := { c.x with st := s } }
        if woke then settleC fuel c' else [c']
    | ts =>
      -- a spawned follow-up may get to run before the job task's next turn (another worker thread), or only once the job task yields
      (if c.spawning.isEmpty then [] else settleC fuel (startFollowUps c)) ++
      ts.flatMap (fun s' => settleC fuel (afterTurn { c with x := { c.x with st := s' } } c.x.st))

def advanceC : Nat → Nat → C → List C
  | 0, _, c => [c]
  | fuel + 1, target, c =>
    (settleC 300 c).flatMap (fun c =>
      if c.x.st.now < c.blockedUntil then
        -- asleep inside the job task: nothing happens until the sleep is over (or the script's target is reached)
        let t := if c.blockedUntil ≤ target then c.blockedUntil else target
        if t == c.x.st.now then [c] else advanceC fuel target { c with x := { c.x with st := { c.x.st with now := t } } }
      else
      match nextEvent c.x.st target with
      | some t => advanceC fuel target { c with x := { c.x with st := { c.x.st with now := t } } }
      | none => settleC 300 { c with x := { c.x with st := { c.x.st with now := target } } })

/-- the action handler for one event batch: enqueue the state query -/
def onEvent (c : C) : C :=
  let c := match c.delayRun with
    | some _ => let d := c.nextQ; { c with x := doSend c.x .normal [.func d] false, delayIds := c.delayIds ++ [d], nextQ := d + 1 }
    | none => c
  let q := c.nextQ
  { c with x := doSend c.x .normal [.func q] false, pendingQ := c.pendingQ ++ [q], nextQ := q + 1 }

/-- a signal delivered to watchexec itself: quit (the worker then stops and deletes the job) or pass it on -/
def onSignal (c : C) (sig : Nat) : C :=
  match onSignals c.cfg c.quitCount [sig] with
  | .quit m => (quitCtls m).foldl (fun c ctls => { c with x := doSend c.x .normal ctls false }) { c with quitCount := c.quitCount + 1 }
  | .pass sigs => sigs.foldl (fun c g => { c with x := doSend c.x .normal [.signal g] false }) c

/-- a keyboard EOF event delivered to the action handler: with `--stdin-quit` the same quit, else the batch is skipped (no query) -/
def onEofEv (c : C) : C :=
  match onEof c.cfg c.quitCount with
  | some m => (quitCtls m).foldl (fun c ctls => { c with x := doSend c.x .normal ctls false }) { c with quitCount := c.quitCount + 1 }
  | none => c

/-- one scripted event of the CLI streams -/
inductive Ev | init | chg | sig (n : Nat) | mix (n : Nat) | eof | settle | advance (ms : Nat)
  deriving Repr, DecidableEq

def stepEv (c : C) : Ev → List C
  | .init | .chg => if c.quitCount > 0 then [c] else [onEvent c]
  | .sig n => if c.quitCount > 0 then [c] else [onSignal c n]
  -- a change and a signal in ONE action: the signals are dealt with first (quit, or passed on), then the change takes its usual course
  | .mix n => if c.quitCount > 0 then [c] else
      let c' := onSignal c n
      if c'.quitCount > 0 then [c'] else [onEvent c']
  | .eof => if c.quitCount > 0 then [c] else [onEofEv c]
  | .settle => settleC 300 c
  | .advance ms => advanceC 64 (c.x.st.now + ms) c

def runEvs (c : C) : List Ev → List C
  | [] => [c]
  | e :: es => (stepEv c e).flatMap (fun c' => runEvs c' es)

end Ca
