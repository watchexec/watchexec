import Wx.Pure.Gen.SignalPrio
import Wx.Pure.Gen.SignalListen
/-! How the signal source hands signals to the event queue (`crates/lib/src/sources/signal.rs`, regenerated on every run).
    C08's "an interrupt or terminate signal leads to exactly this shutdown" and C02's "an urgent event flushes the current batch
    immediately" meet here: INT and TERM must travel as URGENT events, otherwise the shutdown would wait for the debounce window. -/
namespace Wp

/-- the priority of a signal's event: the first matching arm, else the catch-all -/
def signalPriority (sig : String) : String :=
  match Gen.signalPrio.find? (·.1 == sig) with
  | some (_, p) => p
  | none => Gen.signalPrioDefault

/-- the translator read the whole `match` -/
theorem signalPrio_translated : Gen.signalPrioUntranslated = [] := rfl

/-- **interrupt and terminate are urgent**: they are not filtered and flush the pending batch at once -/
theorem interrupt_and_terminate_are_urgent : signalPriority "Interrupt" = "Urgent" ∧ signalPriority "Terminate" = "Urgent" := by decide +kernel

theorem other_signals_are_high : ∀ s ∈ ["Hangup", "ForceStop", "Quit", "User1", "User2", "Custom"], signalPriority s = "High" := by decide +kernel

theorem only_two_signals_are_singled_out : Gen.signalPrio.map (·.1) = ["Interrupt", "Terminate"] := rfl

/-- **every signal the source listens for is reported as itself** (unix worker, regenerated on every run): the six listeners, each
    feeding the `Signal` variant of its own name, nothing unpaired -/
theorem listened_signals_are_reported_as_themselves :
    Gen.signalListen = [("hangup", "Hangup"), ("interrupt", "Interrupt"), ("quit", "Quit"), ("terminate", "Terminate"),
                        ("user_defined1", "User1"), ("user_defined2", "User2")] ∧ Gen.signalListenOdd = [] := ⟨rfl, rfl⟩

end Wp
