import Wx.Job.Sim
/-! C05: the decision logic of the CLI's action handler (cli/src/config.rs) — what the state-query
    closure that runs inside the job task sends, per `--on-busy-update` mode; its composition
    with the job-task model (`Jm`) is in `Wx/Cli/Compose.lean`. -/
namespace Ca
open Jm

inductive Mode | doNothing | queue | restart | signal deriving DecidableEq, Repr

structure Cfg where
  mode : Mode := .doNothing
  stopSignal : Option Sig := none     -- --stop-signal
  signal : Option Sig := none         -- --signal
  stopTimeout : Nat := 10000          -- --stop-timeout (ms)
  sigMap : List (Sig × Option Sig) := []   -- --map-signal FROM:TO (TO empty = discard), in command-line order
  stdinQuit : Bool := false           -- --stdin-quit
  deriving Repr

/-- `EventsArgs::normalise`: `--signal` implies signal mode whatever `--on-busy-update` says; else `-r` means restart; else
    the given mode, do-nothing by default (`-r` and `--on-busy-update` exclude each other in the argument parser) -/
def normaliseMode (explicitMode : Option Mode) (restartFlag : Bool) (signal : Option Sig) : Mode :=
  if signal.isSome then .signal else if restartFlag then .restart else explicitMode.getD .doNothing

/-- `--signal` is documented to imply `--on-busy-update=signal` — also next to an explicit other mode -/
theorem signal_flag_implies_signal_mode (m : Option Mode) (r : Bool) (g : Sig) : normaliseMode m r (some g) = .signal := rfl
theorem restart_flag_means_restart (m : Option Mode) : normaliseMode m true none = .restart := rfl
theorem default_mode_is_do_nothing : normaliseMode none false none = .doNothing := rfl

/-- SIGTERM -/
def term : Sig := 15

/-- marker closures of the CLI (`job.run(setup_process …)`): they only print banners; ids from 1000 -/
def setupId : Nat := 1000

/-- one thing the query closure does -/
inductive Act
  | send (ctls : List Ctl)                 -- `job.<api>()`: normal priority, ticket not awaited
  | followUp (run : ChildId)               -- tokio::spawn of the queue-mode follow-up task for this run
  deriving DecidableEq, Repr

/-- the state-query closure: `cs` is the job's state when it runs, `queuedFor` the run a follow-up already
    waits for. Returns the actions in order and the new `queuedFor`. -/
def react (cfg : Cfg) (cs : CS) (queuedFor : Option ChildId) : List Act × Option ChildId :=
  match cs with
  | .running c =>
    match cfg.mode with
    | .doNothing => ([], queuedFor)
    | .signal => ([.send [.signal ((cfg.stopSignal.orElse fun _ => cfg.signal).getD term)]], queuedFor)
    | .restart => ([.send [.gracefulStop (cfg.stopSignal.getD term) cfg.stopTimeout, .start], .send [.func setupId]], queuedFor)
    | .queue => if queuedFor == some c then ([], queuedFor) else ([.followUp c], some c)
  | _ => ([.send [.start], .send [.func setupId]], queuedFor)

/-- the follow-up task once its wait-for-end ticket has resolved: start, banner closure, and it clears the
    record only if it is still its own -/
def followUpActs (run : ChildId) (queuedFor : Option ChildId) : List Act × Option ChildId :=
  ([.send [.start], .send [.func setupId]], if queuedFor == some run then none else queuedFor)

theorem react_idle (cfg : Cfg) (cs : CS) (q) (h : ∀ c, cs ≠ .running c) :
    (react cfg cs q).1 = [.send [.start], .send [.func setupId]] ∧ (react cfg cs q).2 = q := by
  cases cs with
  | running c => exact absurd rfl (h c)
  | pending => exact ⟨rfl, rfl⟩
  | finished s => exact ⟨rfl, rfl⟩

theorem react_doNothing (cfg : Cfg) (c : ChildId) (q) (h : cfg.mode = .doNothing) :
    (react cfg (.running c) q).1 = [] := by simp [react, h]

theorem react_signal (cfg : Cfg) (c : ChildId) (q) (h : cfg.mode = .signal) :
    (react cfg (.running c) q).1 = [.send [.signal ((cfg.stopSignal.orElse fun _ => cfg.signal).getD term)]] := by
  simp [react, h]

theorem react_restart (cfg : Cfg) (c : ChildId) (q) (h : cfg.mode = .restart) :
    (react cfg (.running c) q).1 = [.send [.gracefulStop (cfg.stopSignal.getD term) cfg.stopTimeout, .start], .send [.func setupId]] := by
  simp [react, h]

theorem react_queue_first (cfg : Cfg) (c : ChildId) (q : Option ChildId) (h : cfg.mode = .queue) (hq : q ≠ some c) :
    react cfg (.running c) q = ([.followUp c], some c) := by
  have : (q == some c) = false := by simpa using hq
  simp [react, h, this]

theorem react_queue_again (cfg : Cfg) (c : ChildId) (h : cfg.mode = .queue) :
    react cfg (.running c) (some c) = ([], some c) := by simp [react, h]

def sentCtls (as : List Act) : List Ctl := as.flatMap (fun a => match a with | .send cs => cs | .followUp _ => [])

theorem mem_sentCtls {k : Ctl} {as : List Act} : k ∈ sentCtls as ↔ ∃ ctls, Act.send ctls ∈ as ∧ k ∈ ctls := by
  simp only [sentCtls, List.mem_flatMap]
  constructor
  · rintro ⟨a, ha, hk⟩
    cases a with
    | send ctls => exact ⟨ctls, ha, hk⟩
    | followUp _ => cases hk
  · rintro ⟨ctls, ha, hk⟩; exact ⟨_, ha, hk⟩

theorem react_sends {cfg : Cfg} {cs : CS} {q} {k : Ctl} (h : k ∈ sentCtls (react cfg cs q).1) :
    k = .start ∨ k = .func setupId ∨
      (cfg.mode = .signal ∧ k = .signal ((cfg.stopSignal.orElse fun _ => cfg.signal).getD term)) ∨
      (cfg.mode = .restart ∧ k = .gracefulStop (cfg.stopSignal.getD term) cfg.stopTimeout) := by
  cases cs with
  | running c =>
    cases hm : cfg.mode with
    | doNothing => rw [react_doNothing cfg c q hm] at h; cases h
    | signal =>
      rw [react_signal cfg c q hm] at h
      exact .inr (.inr (.inl ⟨rfl, by simpa [sentCtls] using h⟩))
    | restart =>
      rw [react_restart cfg c q hm] at h
      have : k = .gracefulStop (cfg.stopSignal.getD term) cfg.stopTimeout ∨ k = .start ∨ k = .func setupId := by
        simpa [sentCtls] using h
      rcases this with h | h | h
      · exact .inr (.inr (.inr ⟨rfl, h⟩))
      · exact .inl h
      · exact .inr (.inl h)
    | queue =>
      by_cases hq : q = some c
      · rw [hq, react_queue_again cfg c hm] at h; cases h
      · rw [react_queue_first cfg c q hm hq] at h; cases h
  | _ =>
    rw [(react_idle cfg _ q (by nofun)).1] at h
    have : k = .start ∨ k = .func setupId := by simpa [sentCtls] using h
    exact this.imp_right .inl

theorem react_no_forceful (cfg : Cfg) (cs : CS) (q) :
    ∀ ctl ∈ sentCtls (react cfg cs q).1, ctl ≠ .stop ∧ ctl ≠ .delete ∧ ctl ≠ .tryRestart := by
  intro ctl hc
  rcases react_sends hc with rfl | rfl | ⟨_, rfl⟩ | ⟨_, rfl⟩ <;> exact ⟨nofun, nofun, nofun⟩

theorem followUp_sends {run : ChildId} {q} {k : Ctl} (h : k ∈ sentCtls (followUpActs run q).1) :
    k = .start ∨ k = .func setupId := by
  simpa [followUpActs, sentCtls] using h

/-! ### signals received by watchexec itself (C08, last sentence)

`config.rs`: a batch that carries Terminate or Interrupt which `--map-signal` does not map quits — the first
time gracefully with the configured stop signal and stop timeout, a second time with KILL and no grace, a third time by
abort; otherwise every signal of the batch is handed to the command: translated if it is mapped to another signal,
dropped if it is mapped to nothing, unchanged if it is not mapped. With `--stdin-quit` a keyboard EOF quits the same way. -/

def sigInt : Sig := 2

inductive Manner | graceful (sig : Sig) (grace : Nat) | abort deriving DecidableEq, Repr

inductive SigAct
  | quit (m : Manner)
  | pass (sigs : List Sig)        -- `job.signal(sig)` for each, in order; the handler then returns (no filesystem event)
  deriving DecidableEq, Repr

/-- `signal_map.get(&s)`: the map is `collect`ed from the command-line list, so the LAST mapping given for a signal counts -/
def mapped (cfg : Cfg) (s : Sig) : Option (Option Sig) := (cfg.sigMap.reverse.find? (·.1 == s)).map (·.2)

/-- what is handed to the command for a received signal -/
def translate (cfg : Cfg) (sigs : List Sig) : List Sig :=
  sigs.filterMap (fun s => match mapped cfg s with | some (some m) => some m | some none => none | none => some s)

def quitManner (cfg : Cfg) (quitCount : Nat) : Manner :=
  match quitCount with
  | 0 => .graceful (cfg.stopSignal.getD term) cfg.stopTimeout
  | 1 => .graceful 9 0
  | _ => .abort

/-- the batch carries an interrupt or terminate that the user did not map -/
def quitting (cfg : Cfg) (sigs : List Sig) : Bool :=
  (sigs.contains term && (mapped cfg term).isNone) || (sigs.contains sigInt && (mapped cfg sigInt).isNone)

def onSignals (cfg : Cfg) (quitCount : Nat) (sigs : List Sig) : SigAct :=
  if quitting cfg sigs then .quit (quitManner cfg quitCount) else .pass (translate cfg sigs)

/-- a keyboard EOF event: quits with `--stdin-quit`; otherwise the batch has no path and no empty event and is skipped -/
def onEof (cfg : Cfg) (quitCount : Nat) : Option Manner := if cfg.stdinQuit then some (quitManner cfg quitCount) else none

theorem mapped_nil (cfg : Cfg) (h : cfg.sigMap = []) (s : Sig) : mapped cfg s = none := by simp [mapped, h]

theorem translate_unmapped (cfg : Cfg) (sigs : List Sig) (h : ∀ s ∈ sigs, mapped cfg s = none) : translate cfg sigs = sigs := by
  induction sigs with
  | nil => rfl
  | cons s ss ih =>
    have hs := h s (by simp)
    have := ih (fun s' hs' => h s' (by simp [hs']))
    simp only [translate, List.filterMap_cons, hs] at this ⊢
    rw [this]

/-- what the action worker does with a quit, per job: `stop_with_signal(sig, grace)` then `delete()` (graceful), or the
    job task is aborted and the handle dropped (abort); each inner list is what one Job API call sends (`Jm.apiOf`) -/
def quitCtls : Manner → List (List Ctl)
  | .graceful sig grace => [[.gracefulStop sig grace], [.stop, .delete]]
  | .abort => []

theorem quitting_iff {cfg : Cfg} {sigs : List Sig} :
    quitting cfg sigs = true ↔ (term ∈ sigs ∧ mapped cfg term = none) ∨ (sigInt ∈ sigs ∧ mapped cfg sigInt = none) := by
  simp [quitting]

theorem onSignals_quit {cfg : Cfg} {sigs : List Sig} (h : quitting cfg sigs = true) (n : Nat) :
    onSignals cfg n sigs = .quit (quitManner cfg n) := if_pos h

theorem onSignals_pass {cfg : Cfg} {sigs : List Sig} (h : ¬ quitting cfg sigs = true) (n : Nat) :
    onSignals cfg n sigs = .pass (translate cfg sigs) := if_neg h

/-- **an interrupt or terminate signal leads to exactly the graceful shutdown**: the first one quits with the configured
    stop signal (default TERM) and the configured stop timeout — whatever else the batch carries -/
theorem first_interrupt_quits_gracefully (cfg : Cfg) (sigs : List Sig)
    (h : (term ∈ sigs ∧ mapped cfg term = none) ∨ (sigInt ∈ sigs ∧ mapped cfg sigInt = none)) :
    onSignals cfg 0 sigs = .quit (.graceful (cfg.stopSignal.getD term) cfg.stopTimeout) :=
  onSignals_quit (quitting_iff.2 h) 0

theorem graceful_quit_sequence (sig : Sig) (grace : Nat) :
    quitCtls (.graceful sig grace) = [[.gracefulStop sig grace], [.stop, .delete]] := rfl

theorem other_signals_pass (cfg : Cfg) (n : Nat) (sigs : List Sig) (h1 : term ∉ sigs) (h2 : sigInt ∉ sigs) :
    onSignals cfg n sigs = .pass (translate cfg sigs) :=
  onSignals_pass (fun h => (quitting_iff.1 h).elim (fun h => h1 h.1) (fun h => h2 h.1)) n

theorem unmapped_signals_pass_unchanged (cfg : Cfg) (n : Nat) (sigs : List Sig) (h1 : term ∉ sigs) (h2 : sigInt ∉ sigs)
    (hm : ∀ s ∈ sigs, mapped cfg s = none) : onSignals cfg n sigs = .pass sigs := by
  rw [other_signals_pass cfg n sigs h1 h2, translate_unmapped cfg sigs hm]

theorem mapped_interrupt_does_not_quit (cfg : Cfg) (n : Nat) (sigs : List Sig)
    (ht : term ∈ sigs → (mapped cfg term).isSome) (hi : sigInt ∈ sigs → (mapped cfg sigInt).isSome) :
    onSignals cfg n sigs = .pass (translate cfg sigs) := by
  refine onSignals_pass (fun h => ?_) n
  rcases quitting_iff.1 h with ⟨h, hm⟩ | ⟨h, hm⟩
  · have := ht h; rw [hm] at this; cases this
  · have := hi h; rw [hm] at this; cases this

theorem translate_one (cfg : Cfg) (s : Sig) :
    translate cfg [s] = match mapped cfg s with | some (some m) => [m] | some none => [] | none => [s] := by
  simp only [translate, List.filterMap_cons, List.filterMap_nil]
  cases mapped cfg s with
  | none => rfl
  | some o => cases o <;> rfl

theorem last_mapping_wins (cfg : Cfg) (s : Sig) (to : Option Sig) (rest : List (Sig × Option Sig)) (h : cfg.sigMap = rest ++ [(s, to)]) :
    mapped cfg s = some to := by simp [mapped, h]

theorem interrupts_escalate (cfg : Cfg) (sigs : List Sig)
    (h : (term ∈ sigs ∧ mapped cfg term = none) ∨ (sigInt ∈ sigs ∧ mapped cfg sigInt = none)) :
    onSignals cfg 1 sigs = .quit (.graceful 9 0) ∧ ∀ n, onSignals cfg (n + 2) sigs = .quit .abort :=
  ⟨onSignals_quit (quitting_iff.2 h) 1, fun n => onSignals_quit (quitting_iff.2 h) (n + 2)⟩

theorem keyboard_eof_quits_gracefully (cfg : Cfg) (h : cfg.stdinQuit = true) :
    onEof cfg 0 = some (.graceful (cfg.stopSignal.getD term) cfg.stopTimeout) := by simp [onEof, h, quitManner]
theorem keyboard_eof_ignored_without_option (cfg : Cfg) (n : Nat) (h : cfg.stdinQuit = false) : onEof cfg n = none := by simp [onEof, h]

end Ca
