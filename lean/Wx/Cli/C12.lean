/-! C12: which ignore files the CLI hands to the filterer under every mix of the discovery flags
    (cli/src/args/filtering.rs normalisation, cli/src/filterer.rs, cli/src/dirs.rs `ignores`). -/
namespace C12

structure Flags where
  noVcs : Bool
  noProject : Bool
  noGlobal : Bool
  noDefault : Bool
  noDiscover : Bool
  ignoreNothing : Bool
  deriving DecidableEq, Repr

/-- `Args::normalise`: --ignore-nothing implies the other five -/
def Flags.norm (f : Flags) : Flags :=
  if f.ignoreNothing then ⟨true, true, true, true, true, true⟩ else f

/-- where an ignore file comes from -/
inductive Src
  | explicitViaOrigin    -- --ignore-file, as returned by from_origin (applies_in = origin)
  | explicitTail         -- --ignore-file, appended again (applies_in = None)
  | projectVcs | projectPlain   -- discovered under the origin (.gitignore … / .ignore)
  | gitConfigExcludes    -- origin-level core.excludesFile (applies_to Git, applies_in None)
  | globalVcs | globalPlain     -- from_environment
  deriving DecidableEq, Repr

def Src.inOrigin : Src → Bool
  | .explicitViaOrigin | .projectVcs | .projectPlain => true | _ => false
def Src.appliesInSome : Src → Bool
  | .explicitViaOrigin | .projectVcs | .projectPlain => true | _ => false
def Src.vcs : Src → Bool
  | .projectVcs | .gitConfigExcludes | .globalVcs => true | _ => false

structure Fixes where
  /-- the explicit `--ignore-file` entries are appended after the flag filters (`explicitLate`) instead of before them,
      where `--no-*` would filter them out -/
  f9 : Bool := false
  /-- the project has a git config with `core.excludesFile`: discovered at the origin, it overrides
      (removes) the global git excludes — `skip_git_global_excludes` in dirs.rs -/
  gitCfg : Bool := false
  /-- the project origin carries the marker of the VCS its ignore files belong to (`.git`). Without it the project's own
      `.gitignore` is still read (and still removed by --no-vcs-ignore), but the GLOBAL git excludes do not apply: dirs.rs keeps a
      global VCS ignore file only for a VCS detected at the origin -/
  vcs : Bool := true

/-- the list handed to the ignore-files filterer -/
def assemble (cfg : Fixes) (f0 : Flags) : List Src :=
  let f := f0.norm
  let explicitLate : List Src := if cfg.f9 then [.explicitTail] else []
  if f.noDiscover then explicitLate else
  let l : List Src := if f.noProject then [] else
    [.explicitViaOrigin, .projectVcs, .projectPlain] ++ (if cfg.gitCfg then [.gitConfigExcludes] else [])
  let skipGlobalGit := cfg.gitCfg && !f.noProject
  let l := l ++ (if f.noGlobal then [] else (if skipGlobalGit || !cfg.vcs then [] else [.globalVcs]) ++ [.globalPlain])
  let l := if cfg.f9 then l else l ++ [.explicitTail]
  let l := if f.noProject then l.filter (fun s => !s.inOrigin) else l
  let l := if f.noGlobal then l.filter (fun s => s.appliesInSome) else l
  let l := if f.noVcs then l.filter (fun s => !s.vcs) else l
  l ++ explicitLate

def explicitHonoured (l : List Src) : Bool := l.contains .explicitViaOrigin || l.contains .explicitTail

/-- both exits of `assemble` append `explicitLate` -/
theorem assemble_f9 (cfg : Fixes) (h : cfg.f9 = true) (f : Flags) : ∃ l, assemble cfg f = l ++ [.explicitTail] := by
  unfold assemble
  -- the `let`s stay `let`s: substituting them (`simp only [assemble]`) copies the list being built at every step
  extract_lets f' late l1 skip l2 l3 l4 l5 l6
  have hl : late = [.explicitTail] := if_pos h
  split
  · exact ⟨[], hl⟩
  · exact ⟨l6, by rw [hl]⟩

theorem explicit_f9 (cfg : Fixes) (h : cfg.f9 = true) (f : Flags) : explicitHonoured (assemble cfg f) = true := by
  obtain ⟨l, hl⟩ := assemble_f9 cfg h f
  simp [hl, explicitHonoured]

/-- repaired: under all 64 flag combinations the explicit file is in the list (six `Bool`s instead of `f : Flags`, here
    and below, so that `decide +kernel` can enumerate) -/
theorem c12_explicit_always :
    ∀ a b c d e g : Bool, explicitHonoured (assemble ⟨true, false, true⟩ ⟨a, b, c, d, e, g⟩) = true ∧
      explicitHonoured (assemble ⟨true, true, true⟩ ⟨a, b, c, d, e, g⟩) = true :=
  fun _ _ _ _ _ _ => ⟨explicit_f9 _ rfl _, explicit_f9 _ rfl _⟩

/-- the flags still do what they say: no discovered project file with --no-project-ignore, etc. -/
theorem c12_flags_effective :
    ∀ a b c d e g : Bool,
    ∀ gc : Bool,
      let l := assemble ⟨true, gc, true⟩ ⟨a, b, c, d, e, g⟩
      let f := (Flags.mk a b c d e g).norm
      (f.noProject → ¬ l.contains .projectVcs ∧ ¬ l.contains .projectPlain) ∧
      (f.noGlobal → ¬ l.contains .globalVcs ∧ ¬ l.contains .globalPlain ∧ ¬ l.contains .gitConfigExcludes) ∧
      (f.noVcs → ¬ l.contains .projectVcs ∧ ¬ l.contains .globalVcs ∧ ¬ l.contains .gitConfigExcludes) ∧
      (f.noDiscover → ∀ s ∈ l, s = .explicitTail) := by decide +kernel

/-- the number of flag combinations that lose the explicit file -/
def lost (cfg : Fixes) : Nat :=
  ((List.range 64).filter (fun n =>
    !explicitHonoured (assemble cfg ⟨n.testBit 0, n.testBit 1, n.testBit 2, n.testBit 3, n.testBit 4, n.testBit 5⟩))).length

theorem c12_today_52 : lost {} = 52 := by decide +kernel
theorem lost_f9 (cfg : Fixes) (h : cfg.f9 = true) : lost cfg = 0 :=
  List.length_eq_zero_iff.2 (List.filter_eq_nil_iff.2 fun n _ => by simp [explicit_f9 cfg h])
theorem c12_fixed_0 : lost ⟨true, false, true⟩ = 0 ∧ lost ⟨true, true, true⟩ = 0 := ⟨lost_f9 _ rfl, lost_f9 _ rfl⟩

/-- which discovered / built-in source each flag names (after normalisation) -/
def removedBy (f0 : Flags) : Src → Bool :=
  let f := f0.norm
  fun
  | .projectVcs => f.noProject || f.noVcs || f.noDiscover
  | .projectPlain => f.noProject || f.noDiscover
  | .gitConfigExcludes => f.noProject || f.noGlobal || f.noVcs || f.noDiscover
  | .globalVcs => f.noGlobal || f.noVcs || f.noDiscover
  | .globalPlain => f.noGlobal || f.noDiscover
  | _ => false

def discovered : List Src := [.projectVcs, .projectPlain, .globalVcs, .globalPlain]

/-- which discovered sources reach the filterer, for every project (with or without a `core.excludesFile` of its own,
    with or without a VCS marker) under all 64 flag combinations -/
theorem c12_exact_all : ∀ gc vcs a b c d e g : Bool,
    let f : Flags := ⟨a, b, c, d, e, g⟩
    let l := assemble ⟨true, gc, vcs⟩ f
    (∀ s ∈ [Src.projectVcs, .projectPlain, .globalPlain], l.contains s = !removedBy f s) ∧
    l.contains .globalVcs = (!removedBy f .globalVcs && vcs && (!gc || f.norm.noProject)) ∧
    l.contains .gitConfigExcludes = (gc && !removedBy f .gitConfigExcludes) := by decide +kernel

/-- **exact removal**: a discovered source reaches the filterer iff no set flag names it — all 64 combinations -/
theorem c12_exact :
    ∀ a b c d e g : Bool, ∀ s ∈ discovered,
      (assemble ⟨true, false, true⟩ ⟨a, b, c, d, e, g⟩).contains s = !removedBy ⟨a, b, c, d, e, g⟩ s := by
  intro a b c d e g s hs
  obtain ⟨h, hg, -⟩ := c12_exact_all false true a b c d e g
  by_cases hs' : s = .globalVcs
  · rw [hs', hg]; simp
  · exact h s (by simpa [discovered, hs'] using hs)

theorem c12_exact_gitcfg :
    ∀ a b c d e g : Bool,
      let f : Flags := ⟨a, b, c, d, e, g⟩
      let l := assemble ⟨true, true, true⟩ f
      l.contains .gitConfigExcludes = !removedBy f .gitConfigExcludes ∧
      l.contains .globalVcs = (!removedBy f .globalVcs && f.norm.noProject) ∧
      (∀ s ∈ [Src.projectVcs, .projectPlain, .globalPlain], l.contains s = !removedBy f s) := by
  intro a b c d e g
  obtain ⟨h, hg, hc⟩ := c12_exact_all true true a b c d e g
  exact ⟨hc, by simpa using hg, h⟩

/-- a project WITHOUT a VCS marker that ships VCS ignore files (a source tarball): its own files are removed exactly by the
    flags that name them — `--no-vcs-ignore` included — and the global VCS excludes never apply -/
theorem c12_exact_novcs :
    ∀ a b c d e g : Bool,
      let f : Flags := ⟨a, b, c, d, e, g⟩
      let l := assemble ⟨true, false, false⟩ f
      l.contains .globalVcs = false ∧
      (∀ s ∈ [Src.projectVcs, .projectPlain, .globalPlain], l.contains s = !removedBy f s) ∧
      explicitHonoured l = true := by
  intro a b c d e g
  obtain ⟨h, hg, -⟩ := c12_exact_all false false a b c d e g
  exact ⟨by simpa using hg, h, explicit_f9 _ rfl _⟩

/-- what `WatchexecFilterer::new` builds: the ignore files above plus everything given explicitly -/
structure Out where
  igfiles : List Src
  defaultIgnores : Bool     -- the built-in default patterns
  ignorePatterns : Bool     -- --ignore
  filters : Bool            -- --filter / --filter-file
  exts : Bool               -- --exts
  fsEvents : Bool           -- --fs-events
  deriving DecidableEq, Repr

def configure (cfg : Fixes) (f : Flags) : Out :=
  { igfiles := assemble cfg f, defaultIgnores := !f.norm.noDefault, ignorePatterns := true, filters := true, exts := true, fsEvents := true }

/-- every explicit option reaches the filterer under all 64 combinations, and the built-in defaults are removed exactly
    by --no-default-ignore / --ignore-nothing -/
theorem c12_explicit_all :
    ∀ a b c d e g : Bool,
    ∀ gc : Bool,
      let o := configure ⟨true, gc, true⟩ ⟨a, b, c, d, e, g⟩
      explicitHonoured o.igfiles = true ∧ o.ignorePatterns = true ∧ o.filters = true ∧ o.exts = true ∧ o.fsEvents = true ∧
      o.defaultIgnores = !(d || g) := by
  intro a b c d e g gc
  refine ⟨explicit_f9 _ rfl _, rfl, rfl, rfl, rfl, ?_⟩
  cases d <;> cases g <;> rfl

/-- a non-trivial instance: no flags -> six of the seven sources (the project's own `core.excludesFile`, when it has one,
    stands in for the global git excludes); --no-discover-ignore -> only the explicit file -/
example : (configure ⟨true, false, true⟩ ⟨false, false, false, false, false, false⟩).igfiles.length = 6 := by decide
example : (configure ⟨true, true, true⟩ ⟨false, false, false, false, false, false⟩).igfiles.length = 6 := by decide
example : (configure ⟨true, false, true⟩ ⟨false, false, false, false, true, false⟩).igfiles = [.explicitTail] := by decide

end C12
